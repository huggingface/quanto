/-
An iteration below child `n` acts on that child alone (`flatStep_lift`), hence the loop is the structural map
(`quantizeFlat_eq_tree`); yielded paths resolve, are distinct, and no path extends a leaf's.
-/
import Quanto.Flat
import Proofs.C08.Lemmas
namespace Quanto

theorem namesOkChildren_cons (n : String) (c : Mod) (rest : List (String × Mod)) :
    namesOkChildren ((n, c) :: rest) = true ↔
      c.namesOk = true ∧ n ∉ rest.map (·.1) ∧ namesOkChildren rest = true := by
  simp only [namesOkChildren, Bool.and_eq_true, Bool.not_eq_true', List.any_eq_false, beq_iff_eq,
    List.mem_map, not_exists, not_and, and_assoc]

theorem setAtChildren_split (pre post : List (String × Mod)) (n : String) (c : Mod) (q : List String)
    (x : Mod) (h : ∀ p ∈ pre, p.1 ≠ n) :
    setAtChildren (pre ++ (n, c) :: post) n q x = pre ++ (n, c.setAt q x) :: post := by
  induction pre with
  | nil => simp [setAtChildren]
  | cons p pre ih =>
    rw [List.cons_append, setAtChildren, if_neg (h p (List.mem_cons_self ..)),
      ih fun p hp => h p (List.mem_cons_of_mem _ hp)]
    rfl

/-- an iteration whose target lies below the child `n` acts on that child alone -/
theorem flatStep_lift (a : QuantizeArgs) (id : Nat) (cls : String)
    (pre post : List (String × Mod)) (n : String) (h : ∀ p ∈ pre, p.1 ≠ n)
    (pm : List String × Mod) (c : Mod) :
    flatStep a (.node id cls (pre ++ (n, c) :: post)) (n :: pm.1, pm.2)
      = .node id cls (pre ++ (n, flatStep a c pm) :: post) := by
  obtain ⟨q, m⟩ := pm
  cases m with
  | node i cl ch => rfl
  | leaf i k cfg =>
    simp only [flatStep]
    split
    · rw [Mod.setAt, setAtChildren_split pre post n c q _ h]
    · rfl

theorem foldl_flatStep_lift (a : QuantizeArgs) (id : Nat) (cls : String)
    (pre post : List (String × Mod)) (n : String) (h : ∀ p ∈ pre, p.1 ≠ n)
    (L : List (List String × Mod)) (c : Mod) :
    (L.map fun pm => (n :: pm.1, pm.2)).foldl (flatStep a) (.node id cls (pre ++ (n, c) :: post))
      = .node id cls (pre ++ (n, L.foldl (flatStep a) c) :: post) := by
  induction L generalizing c with
  | nil => rfl
  | cons pm L ih =>
    rw [List.map_cons, List.foldl_cons, flatStep_lift a id cls pre post n h]
    exact ih _

theorem flatStep_node (a : QuantizeArgs) (cur : Mod) (p : List String) (id : Nat) (cls : String)
    (cs : List (String × Mod)) : flatStep a cur (p, .node id cls cs) = cur := rfl

mutual
theorem quantizeFlat_eq_tree (a : QuantizeArgs) : ∀ t : Mod, t.namesOk = true →
    t.named.foldl (flatStep a) t = quantizeTree a t
  | .leaf id k q, _ => by
    simp only [Mod.named, List.foldl_cons, List.foldl_nil, flatStep, quantizeTree_leaf, Mod.setAt]
  | .node id cls cs, h => by
    have := quantizeFlat_children a id cls [] cs h (by simp)
    simpa [Mod.named, flatStep_node, quantizeTree] using this
theorem quantizeFlat_children (a : QuantizeArgs) (id : Nat) (cls : String) :
    ∀ (pre cs : List (String × Mod)), namesOkChildren cs = true →
      (∀ p ∈ pre, ∀ c ∈ cs, p.1 ≠ c.1) →
      (namedChildren cs).foldl (flatStep a) (.node id cls (pre ++ cs))
        = .node id cls (pre ++ quantizeChildren a cs)
  | pre, [], _, _ => by simp [namedChildren, quantizeChildren]
  | pre, (n, c) :: rest, h, hd => by
    obtain ⟨hc, hn, hr⟩ := (namesOkChildren_cons n c rest).mp h
    simp only [namedChildren, List.foldl_append, quantizeChildren]
    rw [foldl_flatStep_lift a id cls pre rest n (fun p hp => hd p hp (n, c) (.head _)) c.named c]
    rw [quantizeFlat_eq_tree a c hc]
    have := quantizeFlat_children a id cls (pre ++ [(n, quantizeTree a c)]) rest hr (by
      intro p hp d hdm
      rcases List.mem_append.mp hp with hp | hp
      · exact hd p hp d (.tail _ hdm)
      · rw [List.mem_singleton.mp hp]
        exact fun e => hn (List.mem_map.mpr ⟨d, hdm, e.symm⟩))
    simpa [List.append_assoc] using this
end

mutual
theorem named_resolves : ∀ t : Mod, t.namesOk = true → ∀ pm ∈ t.named, t.at? pm.1 = some pm.2
  | .leaf id k q, _, pm, hm => by
    cases List.mem_singleton.mp hm
    rfl
  | .node id cls cs, h, pm, hm => by
    rcases List.mem_cons.mp hm with rfl | hm
    · rfl
    · obtain ⟨n, q, hp, _, hr⟩ := namedChildren_resolves cs h pm hm
      rw [hp]; exact hr
theorem namedChildren_resolves : ∀ cs : List (String × Mod), namesOkChildren cs = true →
    ∀ pm ∈ namedChildren cs, ∃ n q, pm.1 = n :: q ∧ n ∈ cs.map (·.1) ∧ childAt? cs n q = some pm.2
  | [], _, pm, hm => by cases hm
  | (n, c) :: rest, h, pm, hm => by
    obtain ⟨hc, hn, hr⟩ := (namesOkChildren_cons n c rest).mp h
    simp only [namedChildren, List.mem_append, List.mem_map] at hm
    rcases hm with ⟨qm, hq, rfl⟩ | hm
    · refine ⟨n, qm.1, rfl, .head _, ?_⟩
      rw [childAt?, if_pos rfl]
      exact named_resolves c hc qm hq
    · obtain ⟨n', q, hp, hmem, hres⟩ := namedChildren_resolves rest hr pm hm
      refine ⟨n', q, hp, .tail _ hmem, ?_⟩
      rw [childAt?, if_neg fun e : n = n' => hn (e ▸ hmem)]
      exact hres
end

theorem dedupFirst_eq_self (l : List (List String × Mod)) (seen : List Nat)
    (hn : (l.map fun pm => pm.2.rootId).Nodup) (hs : ∀ pm ∈ l, pm.2.rootId ∉ seen) :
    dedupFirst l seen = l := by
  induction l generalizing seen with
  | nil => rfl
  | cons pm rest ih =>
    rw [List.map_cons, List.nodup_cons] at hn
    have h1 : seen.contains pm.2.rootId = false := by simpa using hs pm (List.mem_cons_self ..)
    rw [dedupFirst, h1, if_neg Bool.false_ne_true, ih _ hn.2]
    intro qm hq hm
    rcases List.mem_cons.mp hm with e | hm
    · exact hn.1 (e ▸ List.mem_map_of_mem hq)
    · exact hs qm (List.mem_cons_of_mem _ hq) hm

mutual
theorem named_paths_nodup : ∀ t : Mod, t.namesOk = true → (t.named.map (·.1)).Nodup
  | .leaf id k q, _ => by simp [Mod.named]
  | .node id cls cs, h => by
    simp only [Mod.named, List.map_cons, List.nodup_cons]
    refine ⟨?_, namedChildren_paths_nodup cs h⟩
    intro hm
    obtain ⟨pm, hpm, he⟩ := List.mem_map.mp hm
    obtain ⟨n, q, hp, -, -⟩ := namedChildren_resolves cs h pm hpm
    rw [hp] at he; cases he
theorem namedChildren_paths_nodup : ∀ cs : List (String × Mod), namesOkChildren cs = true →
    ((namedChildren cs).map (·.1)).Nodup
  | [], _ => by simp [namedChildren]
  | (n, c) :: rest, h => by
    obtain ⟨hc, hn, hr⟩ := (namesOkChildren_cons n c rest).mp h
    simp only [namedChildren, List.map_append, List.map_map]
    rw [List.nodup_append]
    refine ⟨?_, namedChildren_paths_nodup rest hr, ?_⟩
    · have := named_paths_nodup c hc
      have := List.Pairwise.map (S := fun a b : List String => a ≠ b) (fun q : List String => n :: q)
        (fun a b hab e => hab (by simpa using e)) this
      simpa [List.Nodup, List.map_map, Function.comp_def] using this
    · intro p hp1 p' hp2 e
      subst e
      obtain ⟨qm, _, hq⟩ := List.mem_map.mp hp1
      obtain ⟨pm, hpm, he⟩ := List.mem_map.mp hp2
      obtain ⟨n', q, hp, hmem, -⟩ := namedChildren_resolves rest hr pm hpm
      rw [hp, ← hq] at he
      exact hn (List.head_eq_of_cons_eq he ▸ hmem)
end

def Mod.isLeaf : Mod → Bool
  | .leaf .. => true
  | .node .. => false

/-- a leaf has no descendants: no yielded path extends the path of a leaf -/
theorem leaf_path_not_proper_prefix (t : Mod) (h : t.namesOk = true) (p q : List String) (x m : Mod)
    (hp : (p, x) ∈ t.named) (hq : (q, m) ∈ t.named) (hx : x.isLeaf = true) (hpre : p <+: q) : q = p := by
  obtain ⟨r, rfl⟩ := hpre
  have hq' := named_resolves t h _ hq
  rw [Mod.at?_append, named_resolves t h _ hp] at hq'
  cases x with
  | node => cases hx
  | leaf id k c =>
    cases r with
    | nil => exact List.append_nil p
    | cons n r => cases hq'

end Quanto
