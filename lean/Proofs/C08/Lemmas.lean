/-
Helper definitions and lemmas for property C08 (`quantize()` swaps exactly the selected eligible
leaves of a module tree, at any depth, and keeps everything else).
-/
import Quanto.Module
namespace Quanto

mutual
/-- the sub-module reached by descending along child names (`[]` = the module itself, the first
child of that name wins, like `named_children`) -/
def Mod.at? : Mod → List String → Option Mod
  | m, [] => some m
  | .leaf _ _ _, _ :: _ => none
  | .node _ _ cs, n :: rest => childAt? cs n rest
def childAt? : List (String × Mod) → String → List String → Option Mod
  | [], _, _ => none
  | (n', m) :: cs, n, rest => if n' = n then m.at? rest else childAt? cs n rest
end

mutual
/-- the tree with every leaf configuration erased: classes, names, order, identities -/
def Mod.skeleton : Mod → Mod
  | .leaf id k _ => .leaf id k none
  | .node id cls cs => .node id cls (skeletonChildren cs)
def skeletonChildren : List (String × Mod) → List (String × Mod)
  | [] => []
  | (n, m) :: rest => (n, m.skeleton) :: skeletonChildren rest
end

mutual
/-- identities of all modules, in pre-order (`named_modules` order) -/
def Mod.ids : Mod → List Nat
  | .leaf id _ _ => [id]
  | .node id _ cs => id :: idsChildren cs
def idsChildren : List (String × Mod) → List Nat
  | [] => []
  | (_, m) :: rest => m.ids ++ idsChildren rest
end

theorem quantizeChildren_eq_map (a : QuantizeArgs) :
    ∀ cs, quantizeChildren a cs = cs.map (fun p => (p.1, quantizeTree a p.2))
  | [] => by simp [quantizeChildren]
  | (n, m) :: rest => by simp [quantizeChildren, quantizeChildren_eq_map a rest]

theorem quantizeChildren_names (a : QuantizeArgs) (cs : List (String × Mod)) :
    (quantizeChildren a cs).map (·.1) = cs.map (·.1) := by
  rw [quantizeChildren_eq_map]; simp [List.map_map, Function.comp_def]

theorem quantizeTree_leaf (a : QuantizeArgs) (id : Nat) (k : LeafKind) (q : Option QCfg) :
    quantizeTree a (.leaf id k q) =
      if selected a id && eligible a k then .leaf id k (some (twinCfg a k)) else .leaf id k q := rfl

theorem quantizeTree_node (a : QuantizeArgs) (id : Nat) (cls : String) (cs : List (String × Mod)) :
    quantizeTree a (.node id cls cs) = .node id cls (quantizeChildren a cs) := rfl

theorem Mod.at?_nil (m : Mod) : m.at? [] = some m := by cases m <;> rfl

theorem Mod.at?_leaf_cons (id : Nat) (k : LeafKind) (q : Option QCfg) (n : String) (r : List String) :
    (Mod.leaf id k q).at? (n :: r) = none := rfl

mutual
theorem Mod.at?_append : ∀ (t : Mod) (p r : List String), t.at? (p ++ r) = (t.at? p).bind (·.at? r)
  | t, [], r => by rw [Mod.at?_nil]; rfl
  | .leaf id k q, n :: p, r => rfl
  | .node id cls cs, n :: p, r => childAt?_append cs n p r
theorem childAt?_append : ∀ (cs : List (String × Mod)) (n : String) (p r : List String),
    childAt? cs n (p ++ r) = (childAt? cs n p).bind (·.at? r)
  | [], n, p, r => rfl
  | (n', m) :: cs, n, p, r => by
    simp only [childAt?]
    split
    · exact Mod.at?_append m p r
    · exact childAt?_append cs n p r
end

mutual
theorem Mod.at?_quantizeTree (a : QuantizeArgs) : ∀ (t : Mod) (p : List String),
    (quantizeTree a t).at? p = (t.at? p).map (quantizeTree a)
  | t, [] => by rw [Mod.at?_nil, Mod.at?_nil]; rfl
  | .leaf id k q, n :: p => by
    rw [quantizeTree_leaf]; split <;> rfl
  | .node id cls cs, n :: p => by
    exact childAt?_quantizeChildren a cs n p
theorem childAt?_quantizeChildren (a : QuantizeArgs) : ∀ (cs : List (String × Mod)) (n : String)
    (p : List String), childAt? (quantizeChildren a cs) n p = (childAt? cs n p).map (quantizeTree a)
  | [], n, p => rfl
  | (n', m) :: cs, n, p => by
    simp only [quantizeChildren, childAt?]
    split
    · exact Mod.at?_quantizeTree a m p
    · exact childAt?_quantizeChildren a cs n p
end

namespace C08

/-! decidable equality of trees (`Mod` is a nested inductive: no deriving handler) -/

mutual
def Mod.beq : Mod → Mod → Bool
  | .leaf i k q, .leaf i' k' q' => decide (i = i') && decide (k = k') && decide (q = q')
  | .node i c cs, .node i' c' cs' => decide (i = i') && decide (c = c') && childrenBeq cs cs'
  | _, _ => false
def childrenBeq : List (String × Mod) → List (String × Mod) → Bool
  | [], [] => true
  | (n, m) :: r, (n', m') :: r' => decide (n = n') && Mod.beq m m' && childrenBeq r r'
  | _, _ => false
end

mutual
theorem Mod.beq_iff : ∀ (a b : Mod), Mod.beq a b = true ↔ a = b
  | .leaf i k q, .leaf i' k' q' => by simp [Mod.beq, and_assoc]
  | .node i c cs, .node i' c' cs' => by simp [Mod.beq, and_assoc, childrenBeq_iff cs cs']
  | .leaf .., .node .. => by simp [Mod.beq]
  | .node .., .leaf .. => by simp [Mod.beq]
theorem childrenBeq_iff : ∀ (a b : List (String × Mod)), childrenBeq a b = true ↔ a = b
  | [], [] => by simp [childrenBeq]
  | (n, m) :: r, (n', m') :: r' => by
    simp [childrenBeq, and_assoc, Mod.beq_iff m m', childrenBeq_iff r r']
  | [], _ :: _ => by simp [childrenBeq]
  | _ :: _, [] => by simp [childrenBeq]
end

instance : DecidableEq Mod := fun a b => decidable_of_iff _ (Mod.beq_iff a b)

/-- what `quantize()` does to the sub-module found at a path -/
def SwapSpec (a : QuantizeArgs) (before after : Option Mod) : Prop :=
  match before with
  | some (.leaf id k q) =>
    after = some (if selected a id && eligible a k then .leaf id k (some (twinCfg a k)) else .leaf id k q)
  | some (.node id cls cs) => ∃ cs', after = some (.node id cls cs') ∧ cs'.map (·.1) = cs.map (·.1)
  | none => after = none

theorem swapSpec_map (a : QuantizeArgs) : ∀ o : Option Mod, SwapSpec a o (o.map (quantizeTree a))
  | none => rfl
  | some (.leaf id k q) => congrArg some (quantizeTree_leaf a id k q)
  | some (.node id cls cs) =>
    ⟨_, congrArg some (quantizeTree_node a id cls cs), quantizeChildren_names a cs⟩

theorem swapSpec_children (a : QuantizeArgs) : ∀ (cs : List (String × Mod)) (n : String) (r : List String),
    SwapSpec a (childAt? cs n r) (childAt? (quantizeChildren a cs) n r) :=
  fun cs n r => childAt?_quantizeChildren a cs n r ▸ swapSpec_map a _

mutual
theorem skeleton_quantizeTree (a : QuantizeArgs) : ∀ t : Mod, (quantizeTree a t).skeleton = t.skeleton
  | .leaf id k q => by rw [quantizeTree_leaf]; split <;> rfl
  | .node id cls cs => congrArg (Mod.node id cls) (skeleton_quantizeChildren a cs)
theorem skeleton_quantizeChildren (a : QuantizeArgs) : ∀ cs : List (String × Mod),
    skeletonChildren (quantizeChildren a cs) = skeletonChildren cs
  | [] => rfl
  | (n, m) :: rest => by
    simp only [quantizeChildren, skeletonChildren, skeleton_quantizeTree a m,
      skeleton_quantizeChildren a rest]
end

mutual
theorem ids_quantizeTree (a : QuantizeArgs) : ∀ t : Mod, (quantizeTree a t).ids = t.ids
  | .leaf id k q => by rw [quantizeTree_leaf]; split <;> rfl
  | .node id cls cs => congrArg (List.cons id) (ids_quantizeChildren a cs)
theorem ids_quantizeChildren (a : QuantizeArgs) : ∀ cs : List (String × Mod),
    idsChildren (quantizeChildren a cs) = idsChildren cs
  | [] => rfl
  | (n, m) :: rest => by
    simp only [quantizeChildren, idsChildren, ids_quantizeTree a m, ids_quantizeChildren a rest]
end

mutual
theorem quantizeTree_idem (a : QuantizeArgs) : ∀ t : Mod, quantizeTree a (quantizeTree a t) = quantizeTree a t
  | .leaf id k q => by
    rw [quantizeTree_leaf]
    by_cases h : (selected a id && eligible a k) = true
    · rw [if_pos h, quantizeTree_leaf, if_pos h]
    · rw [if_neg h, quantizeTree_leaf, if_neg h]
  | .node id cls cs => congrArg (Mod.node id cls) (quantizeChildren_idem a cs)
theorem quantizeChildren_idem (a : QuantizeArgs) : ∀ cs : List (String × Mod),
    quantizeChildren a (quantizeChildren a cs) = quantizeChildren a cs
  | [] => rfl
  | (n, m) :: rest => by
    simp only [quantizeChildren, quantizeTree_idem a m, quantizeChildren_idem a rest]
end

end C08

theorem count_optional_step {c : Prop} [Decidable c] {s t : Step} (h : s ≠ t) :
    (if c then [s] else []).count t = 0 := by
  split
  · exact List.count_eq_zero.mpr (by simpa using h.symm)
  · rfl

end Quanto
