/- `copyInto_apply`: the heap after `copy_` into `a`, cell by cell; the aliasing theorems of C05
are case splits on it. -/
import Quanto.Alias
namespace Quanto

theorem set_get_ne (h : Heap) (c v i : Nat) (hne : i ≠ c) : (h.set c v) i = h i := by
  simp [Heap.set, hne]

theorem set_get_eq (h : Heap) (c v : Nat) : (h.set c v) c = v := by
  simp [Heap.set]

theorem copyInto_apply (a c : QRef) (h : Heap) (i : Nat) :
    copyInto a c h i =
      if i = a.scale then h c.scale else if i = a.data then h c.data else h i := rfl

theorem value_copyInto (a b c : QRef) (h : Heap) :
    b.value (copyInto a c h) = (copyInto a c h b.data, copyInto a c h b.scale) := rfl

end Quanto
