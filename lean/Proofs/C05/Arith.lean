/-
C05 helpers: elementwise facts behind `neg` and `relu`, the bound on a sum of products of int8
codes, and rescaling a quantized tensor by a scalar (`mul` / `div` by a Python number): the quantized
program multiplies the scale first, the float program multiplies the dequantized values; both are two
roundings away from the exact value.
-/
import Proofs.C05.Lemmas
import Proofs.Float.Work
import Proofs.C02.Convert

namespace Quanto

/-- the float `relu` (the function `qbRelu` applies to the dequantized tensor on its float8 branch) -/
def reluV (v : FV) : FV :=
  match v with
  | .fin x => .fin (if x < 0 then 0 else x)
  | .ninf => .fin 0
  | w => w

namespace C05

theorem negCode_int (c : Int) (h1 : -127 ≤ c) (h2 : c ≤ 127) :
    negCode (.fin (c : Rat)) = (FV.fin (c : Rat)).neg := by
  simp only [negCode, FV.neg, Rat.floor_intCast]
  rw [wrapInt8_id _ (by omega) (by omega)]
  push_cast
  rfl

theorem relu_elem (F : Fmt) (hF : WorkFmt F) (s : Rat) (hs : 0 < s) (c : Rat) :
    F.mul (.fin s) (reluCode (.fin c)) = reluV (F.mul (.fin s) (.fin c)) := by
  have hM := work_maxFin_nonneg F hF
  simp only [reluCode, mul_fin]
  by_cases hc : c < 0
  · rw [if_pos hc, mul_zero, fl_zero F hF]
    have hz : s * c < 0 := mul_neg_of_pos_of_neg hs hc
    rcases fl_cases F hF (s * c) with h | h | h
    · have hr := flR_le_of_rep F hF (rep_zero F) hz.le
      rw [h.1, reluV]
      split_ifs with h0
      · rfl
      · rw [le_antisymm hr (not_lt.1 h0)]
    · exact absurd (hM.trans_lt h.2) (lt_asymm hz)
    · rw [h.1]; rfl
  · rw [if_neg hc]
    have hz : 0 ≤ s * c := mul_nonneg hs.le (not_lt.1 hc)
    rcases fl_cases F hF (s * c) with h | h | h
    · rw [h.1, reluV, if_neg (not_lt.2 (le_flR_of_rep F hF (rep_zero F) hz))]
    · rw [h.1]; rfl
    · exact absurd (h.2.trans_le (neg_nonpos.2 hM)) (not_lt.2 hz)

theorem abs_sum_le (g : Nat → Int) (l : List Nat) (B : Int) (h : ∀ k ∈ l, |g k| ≤ B) :
    |(l.map g).sum| ≤ l.length * B := by
  induction l with
  | nil => simp
  | cons x xs ih =>
    rw [List.map_cons, List.sum_cons, List.length_cons, Nat.cast_succ, add_mul, one_mul,
      add_comm (_ * B)]
    exact (abs_add_le _ _).trans
      (add_le_add (h x List.mem_cons_self) (ih fun k hk => h k (List.mem_cons_of_mem x hk)))

theorem abs_mul_int8_le {x y : Int} (hx : -128 ≤ x ∧ x ≤ 127) (hy : -128 ≤ y ∧ y ≤ 127) :
    |x * y| ≤ 16384 := by
  have ex : |x| ≤ 128 := abs_le.2 ⟨hx.1, by omega⟩
  have ey : |y| ≤ 128 := abs_le.2 ⟨hy.1, by omega⟩
  rw [abs_mul]
  exact mul_le_mul ex ey (abs_nonneg _) (by norm_num)

/-- both results are close to the exact value `z`: they are close to each other, relative to `rq` -/
theorem rescale_core (u z yq rq A B : Rat) (hu0 : 0 ≤ u) (hu : u ≤ 1 / 250)
    (hy : |yq - z| ≤ (u + u + u * u) * |z| + A) (hr : |rq - z| ≤ (u + u + u * u) * |z| + B) :
    |yq - rq| ≤ 5 * u * |rq| + (A + (1 + 5 * u) * B) := by
  have hz := abs_nonneg z
  have t1 : |z| ≤ |rq| + |rq - z| := by
    have := abs_add_le rq (z - rq); rw [add_sub_cancel] at this
    rwa [abs_sub_comm z rq] at this
  have t2 : |yq - rq| ≤ |yq - z| + |rq - z| := by
    have := abs_sub_le yq z rq; rwa [abs_sub_comm z rq] at this
  have huu : u * u ≤ u * (1 / 250) := mul_le_mul_of_nonneg_left hu hu0
  -- `(1 - 2u - u²)|z| ≤ |rq| + B`, and `2(2u + u²) ≤ 5u(1 - 2u - u²)` for `u ≤ 1/250`
  have h2 : 0 ≤ u * (1 - 12 * u - 5 * (u * u)) * |z| :=
    mul_nonneg (mul_nonneg hu0 (by linarith only [hu, huu])) hz
  have h4 : 5 * u * ((1 - 2 * u - u * u) * |z|) ≤ 5 * u * (|rq| + B) :=
    mul_le_mul_of_nonneg_left (by linarith only [t1, hr]) (by linarith only [hu0])
  linarith only [t2, hy, hr, h2, h4]

theorem rescale_pure (u η κ s c a b yq rq Ey Er : Rat) (hu0 : 0 ≤ u) (hu : u ≤ 1 / 250)
    (h1 : |a - κ * s| ≤ u * |κ * s| + η) (h2 : |yq - a * c| ≤ u * |a * c| + Ey)
    (h3 : |b - s * c| ≤ u * |s * c| + Er) (h4 : |rq - b * κ| ≤ u * |b * κ| + η) :
    |yq - rq| ≤ 5 * u * |rq| +
      ((Ey + (1 + u) * (|c| * η)) + (1 + 5 * u) * (η + (1 + u) * (|κ| * Er))) := by
  have r := err_comp_mul hu0 h3 h4
  rw [show s * c * κ = κ * s * c by ring] at r
  exact rescale_core u (κ * s * c) yq rq _ _ hu0 hu (err_comp_mul hu0 h1 h2) r

/-- the absolute terms for arbitrary finite codes, within the constants `251/250·qm + 101/50 + 41/40·K`
that `C05_mul_scalar_rescale_partial` / `C05_div_scalar_rescale_partial` state -/
theorem general_allowance (u η qm c K : Rat) (hu0 : 0 ≤ u) (hu : u ≤ 1 / 250) (hη : 0 ≤ η)
    (hc : |c| ≤ qm) (hK : 0 ≤ K) :
    (η + (1 + u) * (|c| * η)) + (1 + 5 * u) * (η + (1 + u) * (K * η)) ≤
      (251 / 250 * qm + 101 / 50 + 41 / 40 * K) * η := by
  have hu1 : 1 + u ≤ 251 / 250 := (add_le_add le_rfl hu).trans_eq (by norm_num)
  have hu5 : 1 + 5 * u ≤ 51 / 50 :=
    (add_le_add le_rfl (mul_le_mul_of_nonneg_left hu (by norm_num))).trans_eq (by norm_num)
  have h1 : (1 + u) * |c| ≤ 251 / 250 * qm := mul_le_mul hu1 hc (abs_nonneg c) (by norm_num)
  have h2 : (1 + 5 * u) * (1 + u) ≤ 41 / 40 :=
    (mul_le_mul hu5 hu1 (add_nonneg zero_le_one hu0) (by norm_num)).trans (by norm_num)
  calc _ = ((1 + u) * |c| + (1 + (1 + 5 * u)) + (1 + 5 * u) * (1 + u) * K) * η := by ring
    _ ≤ _ := mul_le_mul_of_nonneg_right (add_le_add (add_le_add h1
      ((add_le_add le_rfl hu5).trans_eq (by norm_num))) (mul_le_mul_of_nonneg_right h2 hK)) hη

/-- the absolute terms for integer codes, within the allowance of `specRescale` -/
theorem int_allowance (u η qm c κ K K' : Rat) (hu : u ≤ 1 / 250) (hη : 0 ≤ η)
    (hc : |c| ≤ qm) (hqm : qm ≤ 500) (hK : 0 ≤ K) (hK' : 0 ≤ K') :
    (0 + (1 + u) * (|c| * η)) + (1 + 5 * u) * (η + (1 + u) * (κ * 0)) ≤ (qm + 4 + K + K') * η := by
  have h1 : u * |c| ≤ 1 / 250 * 500 :=
    mul_le_mul hu (hc.trans hqm) (abs_nonneg _) (by norm_num)
  calc _ = ((1 + u) * |c| + (1 + 5 * u)) * η := by ring
    _ ≤ _ := mul_le_mul_of_nonneg_right (by linarith only [h1, hu, hc, hK, hK']) hη

/-- scaling by the exact factor `κ` in the two orders: the scale first (`a`, then the code: `yq`), or the
dequantized value (`b`, then the factor: `rq`); all four roundings finite -/
def TwoPrograms (F : Fmt) (κ s c yq rq : Rat) : Prop :=
  ∃ a b, F.fl (.fin (κ * s)) = .fin a ∧ F.fl (.fin (a * c)) = .fin yq ∧
    F.fl (.fin (s * c)) = .fin b ∧ F.fl (.fin (b * κ)) = .fin rq

theorem mul_programs (F : Fmt) (k s c yq rq : Rat)
    (hy : F.mul (F.mul (.fin k) (.fin s)) (.fin c) = .fin yq)
    (hr : F.mul (.fin k) (F.mul (.fin s) (.fin c)) = .fin rq) : TwoPrograms F k s c yq rq := by
  obtain ⟨a, _, ha, -⟩ := mul_fin_inv F _ _ _ hy
  obtain ⟨_, b, -, hb⟩ := mul_fin_inv F _ _ _ hr
  rw [ha] at hy
  rw [hb, mul_fin, mul_comm] at hr
  exact ⟨a, b, ha, hy, hb, hr⟩

theorem div_programs (F : Fmt) (k s c yq rq : Rat) (hk : k ≠ 0)
    (hy : F.mul (F.div (.fin s) (.fin k)) (.fin c) = .fin yq)
    (hr : F.div (F.mul (.fin s) (.fin c)) (.fin k) = .fin rq) : TwoPrograms F k⁻¹ s c yq rq := by
  obtain ⟨a, _, ha, -⟩ := mul_fin_inv F _ _ _ hy
  obtain ⟨b, hb⟩ := div_fin_inv F _ _ _ hr
  rw [ha] at hy
  rw [hb, div_fin F hk, div_eq_mul_inv] at hr
  rw [div_fin F hk, div_eq_inv_mul] at ha
  exact ⟨a, b, ha, hy, hb, hr⟩

/-- any finite code (e.g. float8): `5u` relative, `(251/250·qmax + 101/50 + 41/40·|κ|)·η` absolute -/
theorem rescale_general (F : Fmt) (hF : WorkFmt F) (qm κ s c : Rat) (hc : |c| ≤ qm) (yq rq : Rat)
    (h : TwoPrograms F κ s c yq rq) :
    |yq - rq| ≤ 5 * F.u * |rq| + (251 / 250 * qm + 101 / 50 + 41 / 40 * |κ|) * F.eta := by
  obtain ⟨a, b, ha, hy, hb, hr⟩ := h
  have hu := (u_eta_work F hF).1
  exact (rescale_pure F.u F.eta κ s c a b yq rq F.eta F.eta F.u_nonneg hu
    (fl_err F hF ha) (fl_err F hF hy) (fl_err F hF hb) (fl_err F hF hr)).trans
    (add_le_add le_rfl
      (general_allowance F.u F.eta qm c |κ| F.u_nonneg hu F.eta_nonneg hc (abs_nonneg κ)))

/-- integer codes and a representable scale: `s·n` and `a·n` are rounded once, without an absolute
term, so the factor `κ` does not enter the allowance.  `κ` is the exact factor of the two programs
(`k` for `mul`, `k⁻¹` for `div`); `k` is the scalar `specRescale` is told, whose terms in the allowance
are not needed -/
theorem rescale_int (F : Fmt) (hF : WorkFmt F) (qm k κ s : Rat) (hs : F.Rep s) (n : Int)
    (hn : |(n : Rat)| ≤ qm) (hqm : qm ≤ 500) (yq rq : Rat) (h : TwoPrograms F κ s n yq rq) :
    specRescale F qm k (.fin yq) (.fin rq) = true := by
  obtain ⟨a, b, ha, hy, hb, hr⟩ := h
  have hra : F.Rep a := (fl_fin F hF ha).1 ▸ flR_rep F hF _
  have hu := (u_eta_work F hF).1
  have hK : (0 : Rat) ≤ if |k| = 0 then 0 else 1 / |k| := by
    split_ifs
    · exact le_rfl
    · positivity
  simp only [specRescale, specRescale2, rabs_eq, decide_eq_true_eq]
  exact (rescale_pure F.u F.eta κ s n a b yq rq 0 0 F.u_nonneg hu (fl_err F hF ha)
    ((mul_int_err_signed F hF hra hy).trans_eq (add_zero _).symm)
    ((mul_int_err_signed F hF hs hb).trans_eq (add_zero _).symm)
    (fl_err F hF hr)).trans (add_le_add le_rfl
      (int_allowance F.u F.eta qm n |κ| _ _ hu F.eta_nonneg hn hqm (abs_nonneg k) hK))

end C05
end Quanto
