/-
C05 helpers: `cat` and `stack` of two per-tensor quantized values with equal scales.
-/
import Proofs.C05.Lemmas

namespace Quanto.C05

theorem scaleEqual_eq (a b : T FV) (h : scaleEqual a b = true) : a = b := by
  simp only [scaleEqual, Bool.and_eq_true, beq_iff_eq] at h
  exact T.ext h.1 (Array.toList_inj.1 h.2)

theorem qt_beq_self (Q : QT) : (Q == Q) = true := by simp

theorem deqAll_pair (a b : QB) (da db : T FV) (ha : a.deq = .ok da) (hb : b.deq = .ok db) :
    deqAll [.qb a, .qb b] = .ok [(a.F, da), (b.F, db)] := by
  simp only [deqAll, List.mapM_cons, List.mapM_nil, ha, hb]
  rfl

theorem pair_deq {a b : QB} (ha : a.PerTensor) (hb : b.PerTensor) (hF : a.F = b.F)
    (hs : scaleEqual a.scale b.scale = true) {da db : T FV} (hda : a.deq = .ok da)
    (hdb : b.deq = .ok db) : [da, db] = [a.data, b.data].map (T.map a.deqFn) := by
  have hfn : b.deqFn = a.deqFn := by unfold QB.deqFn; rw [hF, scaleEqual_eq _ _ hs]
  rw [ha.deq_eq hda, hb.deq_eq hdb, hfn]
  rfl

theorem pair_wf {a b : QB} (ha : a.PerTensor) (hb : b.PerTensor) :
    ∀ t ∈ [a.data, b.data], t.data.size = prod t.shape :=
  List.forall_mem_cons.2 ⟨ha.wf, List.forall_mem_cons.2 ⟨hb.wf, nofun⟩⟩

theorem qbCat_quantized (a b : QB) (hp : (catQuantizedPath a b && !a.Q.isFloat) = true) (dim : Int) :
    qbCat [.qb a, .qb b] dim = a.wrap (T.cat? [a.data, b.data] dim) := by
  simp only [qbCat]
  rw [if_pos hp]
  rfl

/-- repaired fallback or not: the quantized path is the same -/
theorem qbStack_quantized (fixed : Bool) (a b : QB) (hp : catQuantizedPath a b = true) (dim : Int) :
    qbStack fixed [.qb a, .qb b] dim = a.wrap (T.stack? [a.data, b.data] dim) := by
  simp only [qbStack]
  rw [if_pos hp]
  rfl

end Quanto.C05
