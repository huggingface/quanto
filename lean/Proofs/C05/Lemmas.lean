/-
A per-tensor value dequantizes through one elementwise map (`deq_per_tensor`), so an operation that
replaces the codes under the same scale (`QB.PerTensor.setData`, `C05.wrap_commutes`) commutes with
dequantization as soon as it commutes with elementwise maps (`Proofs/Move`).
-/
import Quanto.Spec.C05
import Proofs.Move.Cat

namespace Quanto

/-- a per-tensor quantized value whose data has the size announced by its shape and whose scale
is a 0-dimensional tensor -/
structure QB.PerTensor (q : QB) : Prop where
  axis : q.axis = none
  sshape : q.scale.shape = []
  ssize : q.scale.data.size = 1
  wf : q.data.data.size = prod q.data.shape

/-- the elementwise dequantizer of a per-tensor value -/
def QB.deqFn (q : QB) : FV → FV := fun c => symDeq q.F c (q.scale.get 0)

/-- a per-tensor value dequantizes through the elementwise map `q.deqFn` -/
theorem deq_per_tensor (q : QB) (hq : q.PerTensor) : q.deq = .ok (q.data.map q.deqFn) := by
  unfold QB.deq
  rw [hq.sshape, bcastShape_nil_left]
  exact congrArg Except.ok (T.ofFn_eq (q.data.map q.deqFn) _ _ rfl ((T.size_map _ _).trans hq.wf)
    fun n hn => by
      rw [bcastSrc_self _ _ hn, bcastSrc_nil, T.get_map _ _ _ (hq.wf ▸ hn)]
      rfl)

theorem QB.PerTensor.deq_eq {q : QB} (hq : q.PerTensor) {d : T FV} (hd : q.deq = .ok d) :
    d = q.data.map q.deqFn := by
  rw [deq_per_tensor q hq] at hd
  exact (Except.ok.inj hd).symm

theorem QB.PerTensor.setData {q : QB} (hq : q.PerTensor) (sz : List Nat) (e : T FV)
    (he : e.data.size = prod e.shape) :
    ({ q with size := sz, data := e } : QB).PerTensor ∧
      ({ q with size := sz, data := e } : QB).deq = .ok (e.map q.deqFn) :=
  have hr : ({ q with size := sz, data := e } : QB).PerTensor := ⟨hq.axis, hq.sshape, hq.ssize, he⟩
  ⟨hr, deq_per_tensor _ hr⟩

/-- what the quantized implementations make of the outcome of an operation on the codes of `q` -/
def QB.wrap (q : QB) : Option (T FV) → Val
  | some d => .qb { q with size := d.shape, data := d }
  | none => .fail .runtimeError

namespace C05

theorem codes_map_commutes (q : QB) (hq : q.PerTensor) (g h : FV → FV)
    (hgh : ∀ v ∈ q.data.data, q.deqFn (g v) = h (q.deqFn v)) (d : T FV) (hd : q.deq = .ok d) :
    ({ q with data := q.data.map g } : QB).deq = .ok (d.map h) := by
  rw [hq.deq_eq hd, (hq.setData q.size (q.data.map g) ((T.size_map g _).trans hq.wf)).2, T.map_map,
    T.map_map]
  exact congrArg _ (T.map_congr _ _ _ hgh)

theorem scale_map_deq (q : QB) (hq : q.PerTensor) (g : FV → FV) :
    ({ q with scale := q.scale.map g } : QB).deq =
      .ok (q.data.map fun c => symDeq q.F c (g (q.scale.get 0))) := by
  have hr : ({ q with scale := q.scale.map g } : QB).PerTensor :=
    ⟨hq.axis, hq.sshape, (T.size_map g _).trans hq.ssize, hq.wf⟩
  rw [deq_per_tensor _ hr]
  unfold QB.deqFn
  rw [T.get_map g _ _ (by rw [hq.ssize]; exact Nat.zero_lt_one)]

/-- an operation on the codes that commutes with the dequantizer and yields well-formed codes:
the wrapped outcome dequantizes to the outcome on the dequantized tensor, and fails with it -/
theorem wrap_commutes (q : QB) (hq : q.PerTensor) (o : Option (T FV))
    (hwf : ∀ e, o = some e → e.data.size = prod e.shape) :
    (∀ d', o.map (T.map q.deqFn) = some d' →
      ∃ r, q.wrap o = .qb r ∧ r.deq = .ok d' ∧ r.size = d'.shape ∧ r.PerTensor) ∧
    (o.map (T.map q.deqFn) = none → q.wrap o = .fail .runtimeError) := by
  cases o with
  | none => exact ⟨nofun, fun _ => rfl⟩
  | some e =>
    obtain ⟨hr, hd⟩ := hq.setData e.shape e (hwf e rfl)
    refine ⟨fun d' h => ?_, nofun⟩
    cases h
    exact ⟨_, rfl, hd, rfl, hr⟩

theorem qbMove_perTensor (m : MoveOp) (q : QB) (hq : q.axis = none) :
    qbMove m q = q.wrap (m.apply q.data) := by
  obtain ⟨F, Q, axis, size, data, scale⟩ := q
  subst hq
  rfl

theorem qbSplit_perTensor (fixed : Bool) (q : QB) (hq : q.axis = none) (sz : Nat) (dim : Int) :
    qbSplit fixed q sz dim = match q.data.split? sz dim with
      | none => .fail .runtimeError
      | some cs => .listV (cs.map fun d =>
          .qb { q with size := (if fixed then d.shape else q.size), data := d }) := by
  unfold qbSplit
  rw [if_pos (by simp [QB.isPerTensor, hq])]
  cases q.data.split? sz dim <;> rfl

theorem requant_eq (F : Fmt) (Q : QT) (x : T FV) (scale : FV) :
    requant F Q x scale = .qb ⟨F, Q, none, x.shape,
      T.ofFn x.shape fun n => symCode F Q (x.get n) scale, ⟨[], #[scale]⟩⟩ := by
  unfold requant symQuantize
  simp only [symValidate, List.length_nil, Nat.lt_irrefl, if_false, bcastShape_nil_right]
  rw [T.ofFn_congr x.shape _ (fun n => symCode F Q (x.get n) scale) fun n hn => by
    rw [bcastSrc_self _ _ hn, bcastSrc_nil]; rfl]

end C05

/-- the float program: apply the operations in turn -/
def runF : List MoveOp → T FV → Option (T FV)
  | [], t => some t
  | m :: ms, t =>
    match m.apply t with
    | none => none
    | some t' => runF ms t'

theorem runF_cons (m : MoveOp) (ms : List MoveOp) (t : T FV) :
    runF (m :: ms) t = (m.apply t).bind (runF ms) := by
  rw [runF]
  cases m.apply t <;> rfl

/-- the quantized program: `qbMove` on quantized values, the plain operation on plain tensors,
errors propagate -/
def runQ : List MoveOp → Val → Val
  | [], v => v
  | m :: ms, v =>
    match v with
    | .qb q => runQ ms (qbMove m q)
    | .plain F t => runQ ms (optToVal F (m.apply t))
    | .fail e => .fail e
    | _ => .fail .typeError

/-- float16 / qint8 per-tensor value: codes `[[1, -2, 3], [4, 5, -6]]`, scale `1/4` -/
def exQ : QB :=
  ⟨f16, .qint8, none, [2, 3],
    ⟨[2, 3], #[.fin 1, .fin (-2), .fin 3, .fin 4, .fin 5, .fin (-6)]⟩, ⟨[], #[.fin (1 / 4)]⟩⟩

theorem exQ_perTensor : exQ.PerTensor := ⟨rfl, rfl, rfl, rfl⟩

theorem exQ_deq : exQ.deq = .ok (exQ.data.map exQ.deqFn) := deq_per_tensor exQ exQ_perTensor

end Quanto
