/-
C01 (8-bit symmetric quantization): the value grid, the projection `codeOf` onto it, and the scalar
quantizer `symCode` as `codeOf` of a rounded quotient.
-/
import Quanto.Spec.C01
import Proofs.Float.Work
import Proofs.Float.RepB

namespace Quanto

/-- mathematical membership in the value grid V_Q of an 8-bit qtype -/
def QT.InGrid (Q : QT) (v : Rat) : Prop :=
  match Q with
  | .qint8 => ∃ n : Int, v = (n : Rat) ∧ -128 ≤ n ∧ n ≤ 127
  | _ => Q.fmt.Rep v ∧ |v| ≤ Q.qmax

/-! ### the value grid of a qtype -/

theorem QT.isFloat_eq_false {Q : QT} (h : ¬ Q.isFloat = true) : Q = .qint8 := by
  cases Q <;> simp_all [QT.isFloat]

theorem QT.isFloat_cases {Q : QT} (h : Q.isFloat = true) : Q = .e4m3 ∨ Q = .e5m2 := by
  cases Q <;> simp_all [QT.isFloat]

theorem QT.qmin_le_qmax (Q : QT) : Q.qmin ≤ Q.qmax := by
  cases Q <;> norm_num [QT.qmin, QT.qmax]

theorem QT.qmax_pos (Q : QT) : 0 < Q.qmax := by
  cases Q <;> norm_num [QT.qmax]

theorem QT.qmax_le (Q : QT) : Q.qmax ≤ 57344 := by
  cases Q <;> norm_num [QT.qmax]

theorem QT.qmin_float {Q : QT} (h : Q.isFloat = true) : Q.qmin = -Q.qmax := by
  rcases QT.isFloat_cases h with rfl | rfl <;> rfl

theorem QT.fmt_maxFin {Q : QT} (h : Q.isFloat = true) : Q.fmt.maxFin = Q.qmax := by
  rcases QT.isFloat_cases h with rfl | rfl <;>
    norm_num [QT.fmt, QT.qmax, Fmt.maxFin, Quanto.e4m3, Quanto.e5m2, pow2_eq]

theorem QT.fmt_mem (Q : QT) : Q.fmt ∈ [f32, f16, bf16, Quanto.e4m3, Quanto.e5m2] := by
  cases Q <;> simp [QT.fmt]

theorem QT.fmt_one_le_p (Q : QT) : 1 ≤ Q.fmt.p := one_le_p _ Q.fmt_mem

theorem QT.fmt_pow2_p_le (Q : QT) : pow2 (Q.fmt.p : Int) ≤ 16 := by
  cases Q <;> norm_num [QT.fmt, Quanto.e4m3, Quanto.e5m2, pow2_eq]

theorem QT.fmt_min_ge (Q : QT) : pow2 (-16) ≤ pow2 (Q.fmt.emin - (Q.fmt.p : Int) + 1) := by
  cases Q <;> exact pow2_le_pow2 (by decide)

theorem QT.qmax_rep {Q : QT} (h : Q.isFloat = true) : Q.fmt.Rep Q.qmax := by
  rw [← QT.fmt_maxFin h]; exact maxFin_rep _ Q.fmt_mem

theorem QT.inGrid_float {Q : QT} (h : Q.isFloat = true) (v : Rat) :
    Q.InGrid v ↔ (Q.fmt.Rep v ∧ |v| ≤ Q.qmax) := by
  rcases QT.isFloat_cases h with rfl | rfl <;> rfl

theorem QT.inGrid_int8 (v : Rat) :
    QT.InGrid .qint8 v ↔ ∃ n : Int, v = (n : Rat) ∧ -128 ≤ n ∧ n ≤ 127 := Iff.rfl

theorem QT.inGrid_bounds {Q : QT} {v : Rat} (hv : Q.InGrid v) : Q.qmin ≤ v ∧ v ≤ Q.qmax := by
  by_cases hq : Q.isFloat = true
  · rw [QT.inGrid_float hq] at hv
    rw [QT.qmin_float hq]
    exact abs_le.mp hv.2
  · rw [QT.isFloat_eq_false hq] at hv ⊢
    obtain ⟨n, rfl, h1, h2⟩ := hv
    exact ⟨show (-128 : Rat) ≤ n by exact_mod_cast h1, show (n : Rat) ≤ 127 by exact_mod_cast h2⟩

theorem QT.inGrid_qmax (Q : QT) : Q.InGrid Q.qmax := by
  by_cases h : Q.isFloat = true
  · exact (QT.inGrid_float h _).mpr ⟨QT.qmax_rep h, (abs_of_pos Q.qmax_pos).le⟩
  · rw [QT.isFloat_eq_false h]; exact ⟨127, by norm_num [QT.qmax], by omega, by omega⟩

theorem QT.inGrid_qmin (Q : QT) : Q.InGrid Q.qmin := by
  by_cases h : Q.isFloat = true
  · rw [QT.qmin_float h]
    exact (QT.inGrid_float h _).mpr
      ⟨rep_neg (QT.qmax_rep h), by rw [abs_neg, abs_of_pos Q.qmax_pos]⟩
  · rw [QT.isFloat_eq_false h]; exact ⟨-128, by norm_num [QT.qmin], by omega, by omega⟩

theorem QT.inGrid_zero (Q : QT) : Q.InGrid 0 := by
  cases Q
  · exact ⟨0, by simp, by omega, by omega⟩
  · exact ⟨rep_zero _, by norm_num [QT.qmax]⟩
  · exact ⟨rep_zero _, by norm_num [QT.qmax]⟩

/-! ### rounding to the storage type, and the projection `codeOf` onto the grid -/

/-- round to the nearest value of the storage type (no range limit) -/
def QT.rd (Q : QT) (t : Rat) : Rat := if Q.isFloat then Q.fmt.rndFin t else rhe t

theorem QT.rd_nearest (Q : QT) (t : Rat) {v : Rat} (hv : Q.InGrid v) : |Q.rd t - t| ≤ |v - t| := by
  unfold QT.rd
  split_ifs with h
  · exact rndFin_nearest _ Q.fmt_one_le_p t v ((QT.inGrid_float h v).mp hv).1
  · rw [QT.isFloat_eq_false h] at hv
    obtain ⟨n, rfl, -⟩ := hv
    exact rhe_nearest t n

theorem QT.rd_of_inGrid {Q : QT} {v : Rat} (hv : Q.InGrid v) : Q.rd v = v := by
  have := Q.rd_nearest v hv
  rw [sub_self, abs_zero] at this
  exact sub_eq_zero.mp (abs_eq_zero.mp (le_antisymm this (abs_nonneg _)))

theorem QT.rd_inGrid (Q : QT) {t : Rat} (h1 : Q.qmin ≤ t) (h2 : t ≤ Q.qmax) :
    Q.InGrid (Q.rd t) := by
  unfold QT.rd
  split_ifs with h
  · rw [QT.qmin_float h] at h1
    exact (QT.inGrid_float h _).mpr ⟨rndFin_rep _ Q.fmt_one_le_p _,
      abs_rndFin_le_of_rep _ Q.fmt_one_le_p (QT.qmax_rep h) (abs_le.mpr ⟨h1, h2⟩)⟩
  · rw [QT.isFloat_eq_false h] at h1 h2 ⊢
    have a := rhe_mono (a := ((-128 : Int) : Rat)) (by simpa [QT.qmin] using h1)
    have b := rhe_mono (b := ((127 : Int) : Rat)) (by simpa [QT.qmax] using h2)
    rw [rhe_int] at a b
    exact ⟨rhe t, rfl, a, b⟩

/-- the nearest grid point: clamp to the range of the grid, then round to the storage type -/
def codeOf (Q : QT) (r : Rat) : Rat := Q.rd (max Q.qmin (min r Q.qmax))

theorem codeOf_int8 (r : Rat) : codeOf .qint8 r = rhe (max (-128) (min r 127)) := by
  unfold codeOf QT.rd; simp [QT.isFloat, QT.qmin, QT.qmax]

theorem codeOf_float {Q : QT} (h : Q.isFloat = true) (r : Rat) :
    codeOf Q r = Q.fmt.rndFin (max (-Q.qmax) (min r Q.qmax)) := by
  unfold codeOf QT.rd; rw [if_pos h, QT.qmin_float h]

theorem codeOf_inGrid (Q : QT) (r : Rat) : Q.InGrid (codeOf Q r) :=
  Q.rd_inGrid (le_max_left _ _) (max_le Q.qmin_le_qmax (min_le_right _ _))

theorem codeOf_sat_hi (Q : QT) (r : Rat) (h : Q.qmax ≤ r) : codeOf Q r = Q.qmax := by
  unfold codeOf; rw [min_eq_right h, max_eq_right Q.qmin_le_qmax, QT.rd_of_inGrid Q.inGrid_qmax]

theorem codeOf_sat_lo (Q : QT) (r : Rat) (h : r ≤ Q.qmin) : codeOf Q r = Q.qmin := by
  unfold codeOf; rw [max_eq_left ((min_le_left _ _).trans h), QT.rd_of_inGrid Q.inGrid_qmin]

theorem codeOf_of_inGrid {Q : QT} {v : Rat} (hv : Q.InGrid v) : codeOf Q v = v := by
  obtain ⟨h1, h2⟩ := QT.inGrid_bounds hv
  unfold codeOf; rw [min_eq_left h2, max_eq_right h1, QT.rd_of_inGrid hv]

theorem codeOf_nearest (Q : QT) (r v : Rat) (hv : Q.InGrid v) : |codeOf Q r - r| ≤ |v - r| := by
  obtain ⟨hv1, hv2⟩ := QT.inGrid_bounds hv
  rcases lt_or_ge r Q.qmin with h1 | h1
  · rw [codeOf_sat_lo Q r h1.le, abs_of_nonneg (by linarith), abs_of_nonneg (by linarith)]
    linarith
  rcases lt_or_ge Q.qmax r with h2 | h2
  · rw [codeOf_sat_hi Q r h2.le, abs_of_nonpos (by linarith), abs_of_nonpos (by linarith)]
    linarith
  · unfold codeOf
    rw [min_eq_left h2, max_eq_right h1]
    exact Q.rd_nearest r hv

theorem nearest_perturb {c v r q ε : Rat} (hn : |c - r| ≤ |v - r|) (hr : |r - q| ≤ ε) :
    |c - q| ≤ |v - q| + 2 * ε := by
  have t1 : |c - q| ≤ |c - r| + |r - q| := abs_sub_le _ _ _
  have t2 : |v - r| ≤ |v - q| + |q - r| := abs_sub_le _ _ _
  rw [abs_sub_comm q r] at t2
  linarith only [t1, t2, hn, hr]

/-! ### the equations of the scalar quantizer -/

theorem qcast_rnd_of_abs_le {Q : QT} (h : Q.isFloat = true) (q : Rat) (hq : |q| ≤ Q.qmax) :
    Q.cast (.fin q) = .fin (Q.fmt.rndFin q) := by
  have : Q.cast (.fin q) = Q.fmt.rnd q := by rcases QT.isFloat_cases h with rfl | rfl <;> rfl
  rw [this]
  exact rnd_of_abs_le_maxFin _ Q.fmt_one_le_p (maxFin_rep _ Q.fmt_mem) q
    (by rw [QT.fmt_maxFin h]; exact hq)

theorem qcast_of_inGrid {Q : QT} {v : Rat} (hv : Q.InGrid v) : Q.cast (.fin v) = .fin v := by
  by_cases h : Q.isFloat = true
  · obtain ⟨hr, ha⟩ := (QT.inGrid_float h v).mp hv
    rw [qcast_rnd_of_abs_le h v ha, rndFin_of_rep _ Q.fmt_one_le_p v hr]
  · rw [QT.isFloat_eq_false h]; rfl

theorem symCode_eq (F : Fmt) (Q : QT) (x s : Rat) (hs : s ≠ 0) :
    symCode F Q (.fin x) (.fin s) =
      Q.cast ((if Q.isFloat then F.fl (.fin (x / s)) else (F.fl (.fin (x / s))).round).clamp
        Q.qmin Q.qmax) := by
  unfold symCode
  rw [div_fin F hs]

theorem symCode_of_fin (F : Fmt) (Q : QT) (x s r : Rat) (hs : s ≠ 0)
    (h : F.fl (.fin (x / s)) = .fin r) :
    symCode F Q (.fin x) (.fin s) = .fin (codeOf Q r) := by
  rw [symCode_eq F Q x s hs, h]
  by_cases hq : Q.isFloat = true
  · rw [if_pos hq, clamp_fin Q.qmin_le_qmax, codeOf_float hq, ← QT.qmin_float hq]
    exact qcast_rnd_of_abs_le hq _ (abs_le.mpr
      ⟨QT.qmin_float hq ▸ le_max_left _ _, max_le Q.qmin_le_qmax (min_le_right _ _)⟩)
  · -- the model rounds, then clamps: for integer bounds the two commute (`rhe_clamp`)
    have e := congrArg (Int.cast (R := Rat)) (rhe_clamp (-128) 127 r)
    push_cast at e
    rw [if_neg hq, QT.isFloat_eq_false hq, codeOf_int8, e]
    exact clamp_fin (QT.qmin_le_qmax _) _

theorem symCode_of_pinf (F : Fmt) (Q : QT) (x s : Rat) (hs : s ≠ 0)
    (h : F.fl (.fin (x / s)) = .pinf) :
    symCode F Q (.fin x) (.fin s) = .fin Q.qmax := by
  rw [symCode_eq F Q x s hs, h]
  have : (if Q.isFloat then FV.pinf else FV.pinf.round) = .pinf := by split_ifs <;> rfl
  rw [this]
  exact qcast_of_inGrid Q.inGrid_qmax

theorem symCode_of_ninf (F : Fmt) (Q : QT) (x s : Rat) (hs : s ≠ 0)
    (h : F.fl (.fin (x / s)) = .ninf) :
    symCode F Q (.fin x) (.fin s) = .fin Q.qmin := by
  rw [symCode_eq F Q x s hs, h]
  have : (if Q.isFloat then FV.ninf else FV.ninf.round) = .ninf := by split_ifs <;> rfl
  rw [this]
  exact qcast_of_inGrid Q.inGrid_qmin

theorem symDeq_eq (F : Fmt) (c s : Rat) : symDeq F (.fin c) (.fin s) = F.fl (.fin (s * c)) := rfl

theorem symDeq_zero (F : Fmt) (hF : WorkFmt F) (s : Rat) : symDeq F (.fin 0) (.fin s) = .fin 0 := by
  rw [symDeq_eq, mul_zero]; exact fl_zero F hF

theorem symDeq_err (F : Fmt) (hF : WorkFmt F) {s c y : Rat} (hs : 0 < s)
    (hy : symDeq F (.fin c) (.fin s) = .fin y) : |y - s * c| ≤ F.u * (s * |c|) + F.eta := by
  have := fl_err F hF hy
  rwa [abs_mul, abs_of_pos hs] at this

theorem symDeq_rel_err (F : Fmt) (hF : WorkFmt F) {s c y : Rat} (hs : 0 < s)
    (hnorm : pow2 F.emin ≤ s * |c| ∨ c = 0) (hy : symDeq F (.fin c) (.fin s) = .fin y) :
    |y - s * c| ≤ F.u * (s * |c|) := by
  rw [symDeq_eq] at hy
  rcases hnorm with hnorm | rfl
  · have := fl_err_normal F hF (by rwa [abs_mul, abs_of_pos hs]) hy
    rwa [abs_mul, abs_of_pos hs] at this
  · rw [← symDeq_eq, symDeq_zero F hF] at hy
    rw [← FV.fin.inj hy]; simp

/-! ### the grids inside the working formats -/

theorem work_rep_of_inGrid (F : Fmt) (hF : WorkFmt F) {Q : QT} {v : Rat} (hv : Q.InGrid v) :
    F.Rep v := by
  by_cases h : Q.isFloat = true
  · have hp : Q.fmt.p ≤ F.p ∧ F.emin - (F.p : Int) + 1 ≤ Q.fmt.emin - (Q.fmt.p : Int) + 1 := by
      rcases hF.cases with rfl | rfl | rfl <;> cases Q <;> decide
    exact rep_mono hp.1 hp.2 ((QT.inGrid_float h v).mp hv).1
  · rw [QT.isFloat_eq_false h] at hv
    obtain ⟨n, rfl, h1, h2⟩ := hv
    simpa using rep_work F hF n 0 (abs_lt.mpr ⟨by omega, by omega⟩)

theorem QT.abs_le_work (F : Fmt) (hF : WorkFmt F) {Q : QT} {v : Rat} (hv : Q.InGrid v) :
    |v| ≤ F.maxFin := by
  obtain ⟨h1, h2⟩ := QT.inGrid_bounds hv
  have := work_maxFin_ge F hF
  cases Q <;> exact abs_le.mpr
    ⟨(neg_le_neg this).trans (le_trans (by norm_num [QT.qmin]) h1),
      h2.trans (le_trans (by norm_num [QT.qmax]) this)⟩

/-! ### the scalar quantizer on finite inputs -/

/-- the code is `codeOf` of a number `r` within rounding error of `x/s` and on the same side of
the end points of the grid (`r = x/s` itself when the division overflows) -/
theorem symCode_eq_codeOf_near (F : Fmt) (hF : WorkFmt F) (Q : QT) (x s : Rat) (hs : 0 < s) :
    ∃ r, symCode F Q (.fin x) (.fin s) = .fin (codeOf Q r) ∧
      |r - x / s| ≤ F.u * |x / s| + F.eta ∧
      (Q.qmax ≤ x / s → Q.qmax ≤ r) ∧ (x / s ≤ Q.qmin → r ≤ Q.qmin) := by
  have h0 : 0 ≤ F.u * |x / s| + F.eta :=
    add_nonneg (mul_nonneg F.u_nonneg (abs_nonneg _)) F.eta_nonneg
  rcases fl_cases F hF (x / s) with hc | hc | hc
  · exact ⟨F.flR (x / s), symCode_of_fin F Q x s _ hs.ne' hc.1, fl_err F hF hc.1,
      le_flR_of_rep F hF (work_rep_of_inGrid F hF Q.inGrid_qmax),
      flR_le_of_rep F hF (work_rep_of_inGrid F hF Q.inGrid_qmin)⟩
  · refine ⟨x / s, ?_, by rwa [sub_self, abs_zero], id, id⟩
    rw [symCode_of_pinf F Q x s hs.ne' hc.1,
      codeOf_sat_hi Q _
        ((le_abs_self _).trans ((QT.abs_le_work F hF Q.inGrid_qmax).trans hc.2.le))]
  · refine ⟨x / s, ?_, by rwa [sub_self, abs_zero], id, id⟩
    rw [symCode_of_ninf F Q x s hs.ne' hc.1,
      codeOf_sat_lo Q _ (hc.2.le.trans
        (neg_le.mp ((neg_le_abs _).trans (QT.abs_le_work F hF Q.inGrid_qmin))))]

theorem symCode_zero (F : Fmt) (hF : WorkFmt F) (Q : QT) {s : Rat} (hs : 0 < s) :
    symCode F Q (.fin 0) (.fin s) = .fin 0 := by
  have h0 : F.fl (.fin (0 / s)) = .fin 0 := by rw [zero_div]; exact fl_zero F hF
  rw [symCode_of_fin F Q 0 s 0 hs.ne' h0, codeOf_of_inGrid Q.inGrid_zero]

theorem symCode_symDeq_int8 (F : Fmt) (hF : WorkFmt F) (hu : F.u ≤ 1 / 2000) (he : F.eta ≤ 1 / 1000)
    (s : Rat) (hs : 0 < s) (n : Int) (hn1 : -128 ≤ n) (hn2 : n ≤ 127)
    (hnorm : pow2 F.emin ≤ s * |(n : Rat)| ∨ n = 0) (y : Rat)
    (hy : symDeq F (.fin n) (.fin s) = .fin y) :
    symCode F .qint8 (.fin y) (.fin s) = .fin n := by
  have hnabs : |(n : Rat)| ≤ 128 := by
    exact_mod_cast (abs_le.mpr ⟨hn1, hn2.trans (by norm_num)⟩ : |n| ≤ 128)
  obtain ⟨d, hd, hr⟩ := rhe_fl_div_near F hF hs hnabs (by norm_num) (by linarith only [hu, he])
    (symDeq_rel_err F hF hs (hnorm.imp_right fun h => by rw [h, Int.cast_zero]) hy)
  -- the model rounds `d` before clamping to `[-128, 127]`; `codeOf` clamps first (`rhe_clamp`)
  have e := rhe_clamp (-128) 127 d
  push_cast at e
  rw [symCode_of_fin F .qint8 y s d hs.ne' hd, codeOf_int8, e, hr,
    min_eq_left hn2, max_eq_right hn1]

/-! ### the executable grid of the float8 types, checked value by value -/

/-- executable grid membership test for a float8 format -/
def gridB (F : Fmt) (qmax : Rat) (v : Rat) : Bool :=
  repB F v && decide (-qmax ≤ v) && decide (v ≤ qmax)

theorem gridB_sound (F : Fmt) (qmax v : Rat) (h : gridB F qmax v = true) :
    F.Rep v ∧ |v| ≤ qmax := by
  unfold gridB at h
  simp only [Bool.and_eq_true, decide_eq_true_eq] at h
  exact ⟨repB_sound F v h.1.1, abs_le.mpr ⟨h.1.2, h.2⟩⟩

theorem grid_e4m3_check : (Fmt.finiteValues e4m3).all (gridB e4m3 448) = true := by
  decide +kernel

theorem grid_e5m2_check : (Fmt.finiteValues e5m2).all (gridB e5m2 57344) = true := by
  decide +kernel

end Quanto
