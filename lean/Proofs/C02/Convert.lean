/-
The integer conversions of `Quanto/Affine.lean` (`wrapInt8`, `toInt8`, `toUint8`) on values in
range, and the affine dequantizer when nothing wraps.
-/
import Quanto.Affine
import Proofs.Float.Basic

namespace Quanto

theorem wrapInt8_id (n : Int) (h1 : -128 ≤ n) (h2 : n ≤ 127) : wrapInt8 n = n := by
  unfold wrapInt8; omega

theorem wrapInt8_bounds (n : Int) : -128 ≤ wrapInt8 n ∧ wrapInt8 n ≤ 127 := by
  unfold wrapInt8; omega

theorem toInt8_intCast (m : Int) (h1 : -128 ≤ m) (h2 : m ≤ 127) :
    toInt8 (.fin (m : Rat)) = m := by
  show (if rabs (m : Rat) < 2147483648 then wrapInt8 (m : Rat).floor else 0) = m
  have : |(m : Rat)| ≤ 128 := by exact_mod_cast abs_le.mpr ⟨h1, h2.trans (by norm_num)⟩
  rw [if_pos (by rw [rabs_eq]; linarith), Rat.floor_intCast, wrapInt8_id m h1 h2]

theorem toUint8_le {q : Rat} {n : Nat} (h : q ≤ n) : toUint8 (.fin q) ≤ n :=
  (Nat.mod_le _ _).trans (Int.toNat_le.mpr (by exact_mod_cast (Rat.floor_le q).trans h))

theorem toUint8_intCast (c : Int) (h0 : 0 ≤ c) (h1 : c < 256) :
    toUint8 (.fin (c : Rat)) = c.toNat := by
  show (c : Rat).floor.toNat % 256 = _
  rw [Rat.floor_intCast]
  exact Nat.mod_eq_of_lt (by omega)

theorem affDeq_eq (F : Fmt) (c : Nat) (sq : Rat) (z : Int) :
    affDeq F c (.fin sq) z = F.fl (.fin (sq * ((wrapInt8 (wrapInt8 c - z) : Int) : Rat))) := rfl

/-- the dequantizer on a small code and a small zero-point (no int8 wrap-around) -/
theorem affDeq_fin (F : Fmt) (c : Int) (sq : Rat) (z : Int) (hc0 : 0 ≤ c) (hc1 : c ≤ 127)
    (h1 : -128 ≤ c - z) (h2 : c - z ≤ 127) :
    affDeq F c.toNat (.fin sq) z = F.fl (.fin (sq * ((c - z : Int) : Rat))) := by
  rw [affDeq_eq, Int.toNat_of_nonneg hc0, wrapInt8_id c (by omega) hc1, wrapInt8_id _ h1 h2]

end Quanto
