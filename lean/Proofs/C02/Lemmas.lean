/-
C02 (2/4-bit affine quantization of one group with the `MaxOptimizer` scale / zero-point): the
equations of the model on finite inputs, what follows from a finite optimizer scale (`IsScale`),
idempotence.  The arithmetic is in `Proofs/C02/Arith`.
-/
import Proofs.Float.Work
import Proofs.C02.Arith
import Proofs.C02.Convert

namespace Quanto

/-- the number of quantization steps; the model writes `(2 : Rat) ^ bits - 1` -/
def nStepsI (bits : Nat) : Int := 2 ^ bits - 1

theorem nStepsI_cast (bits : Nat) : (nStepsI bits : Rat) = 2 ^ bits - 1 := by
  unfold nStepsI; push_cast; rfl

theorem two_pow_eq (bits : Nat) : (2 : Rat) ^ bits = (nStepsI bits : Rat) + 1 := by
  unfold nStepsI; push_cast; ring

theorem nStepsI_bounds {bits : Nat} (hb : bits = 2 ∨ bits = 4) :
    3 ≤ nStepsI bits ∧ nStepsI bits ≤ 15 := by
  rcases hb with rfl | rfl <;> decide

theorem nStepsI_cast_bounds {bits : Nat} (hb : bits = 2 ∨ bits = 4) :
    (3 : Rat) ≤ nStepsI bits ∧ (nStepsI bits : Rat) ≤ 15 := by
  exact_mod_cast nStepsI_bounds hb

/-! ### unfolding the optimizer -/

theorem maxOptScale_eq (F : Fmt) (bits : Nat) (lo hi : Rat) :
    maxOptScale F bits (.fin lo) (.fin hi) =
      F.div (F.fl (.fin (hi - lo))) (.fin (nStepsI bits : Rat)) := by
  rw [nStepsI_cast, ← sub_fin]; rfl

theorem scale_fin (F : Fmt) (hF : WorkFmt F) (bits : Nat) (hN : (nStepsI bits : Rat) ≠ 0)
    (lo hi sq : Rat) (h : maxOptScale F bits (.fin lo) (.fin hi) = .fin sq) :
    F.fl (.fin (hi - lo)) = .fin (F.flR (hi - lo)) ∧
      F.fl (.fin (F.flR (hi - lo) / nStepsI bits)) = .fin sq := by
  rw [maxOptScale_eq] at h
  obtain ⟨w, hw⟩ := div_fin_inv F _ _ _ h
  obtain ⟨rfl, -⟩ := fl_fin F hF hw
  rw [hw, div_fin F hN] at h
  exact ⟨hw, h⟩

/-! ### unfolding the zero-point, the code and the dequantizer -/

theorem maxOptZero_fin (F : Fmt) (lo sq zf : Rat) (hsq : sq ≠ 0)
    (hz : F.fl (.fin (-lo / sq)) = .fin zf) (h1 : -128 ≤ rhe zf) (h2 : rhe zf ≤ 127) :
    maxOptZero F (.fin lo) (.fin sq) = rhe zf := by
  show toInt8 (F.div (.fin (-lo)) (.fin sq)).round = _
  rw [div_fin F hsq, hz]
  exact toInt8_intCast _ h1 h2

theorem affCode_fin (F : Fmt) (hF : WorkFmt F) (bits : Nat) (hb : bits = 2 ∨ bits = 4)
    (x sq d : Rat) (z : Int) (hsq : sq ≠ 0) (hd : F.fl (.fin (x / sq)) = .fin d)
    (hsmall : |rhe d + z| < 2 ^ 8) :
    affCode F bits (.fin x) (.fin sq) z = (max 0 (min (rhe d + z) (nStepsI bits))).toNat := by
  obtain ⟨hN3, hN15⟩ := nStepsI_bounds hb
  unfold affCode
  rw [div_fin F hsq, hd]
  show toUint8 ((F.fl (.fin ((rhe d : Rat) + (z : Rat)))).clamp 0 (2 ^ bits - 1)) = _
  rw [← Int.cast_add, fl_small_int F hF _ hsmall, ← nStepsI_cast, clamp_intCast (by omega)]
  exact toUint8_intCast _ (by omega) (by omega)

theorem affDeq_zero_scale (F : Fmt) (hF : WorkFmt F) (c : Nat) (z : Int) :
    affDeq F c (.fin 0) z = .fin 0 := by
  rw [affDeq_eq, zero_mul]; exact fl_zero F hF

/-! ### the setting of C02 and what follows from it -/

/-- `sq` is the finite `MaxOptimizer` scale, in a working format and for 2 or 4 bits, of a group
whose range `[lo, hi]` has been extended to contain zero -/
structure IsScale (F : Fmt) (bits : Nat) (lo hi sq : Rat) : Prop where
  work : WorkFmt F
  bits_eq : bits = 2 ∨ bits = 4
  lo_le : lo ≤ 0
  hi_ge : 0 ≤ hi
  eq : maxOptScale F bits (.fin lo) (.fin hi) = .fin sq

namespace IsScale

variable {F : Fmt} {bits : Nat} {lo hi sq : Rat} (g : IsScale F bits lo hi sq)
include g

theorem abs_le_width {x : Rat} (hx1 : lo ≤ x) (hx2 : x ≤ hi) : |x| ≤ hi - lo :=
  abs_le.mpr ⟨by linarith [g.hi_ge], by linarith [g.lo_le]⟩

/-- the scale is non-negative; it is at most the exact step plus rounding; `N` steps cover the
width up to rounding; it is a number of `F` -/
theorem scale_facts :
    0 ≤ sq ∧ sq ≤ (hi - lo) / nStepsI bits * (1 + 3 * F.u) + 2 * F.eta ∧
    hi - lo ≤ (1 + 3 * F.u) * (nStepsI bits * sq + (nStepsI bits + 1) * F.eta) ∧ F.Rep sq := by
  have hF := g.work
  have hN3 := (nStepsI_cast_bounds g.bits_eq).1
  have hN0 : (0 : Rat) < nStepsI bits := by linarith only [hN3]
  obtain ⟨hw, hsq⟩ := scale_fin F hF bits hN0.ne' lo hi sq g.eq
  have hD : 0 ≤ hi - lo := by linarith [g.lo_le, g.hi_ge]
  have hw0 := flR_nonneg F hF hD
  have e1 := fl_err F hF hw
  have e2 := fl_err F hF hsq
  obtain ⟨rfl, -⟩ := fl_fin F hF hsq
  have hu0 := F.u_nonneg
  have he0 := F.eta_nonneg
  have hu := (u_eta_work F hF).1
  have hv : F.flR (hi - lo) / nStepsI bits * nStepsI bits = F.flR (hi - lo) :=
    div_mul_cancel₀ _ hN0.ne'
  obtain ⟨h1, h2⟩ := step_bounds hu0 (hu.trans (by norm_num)) he0 (by linarith only [hN3]) hD hw0 hv e1 e2
  exact ⟨flR_nonneg F hF (div_nonneg hw0 hN0.le), h1, h2, flR_rep F hF _⟩

/-- in units of a positive scale `sq` the range is at most `(1+3u)(N + (N+1)·η/sq)` steps, which
is less than `3·2^bits/2` because `η/sq ≤ 0.51`: the scale is at least the smallest subnormal. -/
theorem grid_facts (hpos : 0 < sq) :
    (hi - lo) / sq ≤
      (1 + 3 * F.u) * ((nStepsI bits : Rat) + ((nStepsI bits : Rat) + 1) * (F.eta / sq)) ∧
    2 * ((hi - lo) / sq) ≤ 3 * ((nStepsI bits : Rat) + 1) - 1 := by
  obtain ⟨-, -, hD, hrep⟩ := g.scale_facts
  obtain ⟨hN3, hN15⟩ := nStepsI_cast_bounds g.bits_eq
  have hu := (u_eta_work F g.work).1
  have he' : F.eta / sq ≤ 51 / 100 := by
    have hmin := rep_abs_ge F hrep hpos.ne'
    rw [abs_of_pos hpos] at hmin
    rw [div_le_iff₀ hpos]
    exact (eta_le_half_minsub F g.work).trans (mul_le_mul_of_nonneg_left hmin (by norm_num))
  have hW := grid_range hpos hD
  have hc := grid_range_const (by linarith only [hN3]) hu (div_nonneg F.eta_nonneg hpos.le) he' hW
  exact ⟨hW, by linarith only [hc, hN15]⟩

/-- a quotient `t / sq` with `|t|` at most the width is computed finitely, `q`; `q` is within rounding
error of it; its rounding `rhe q` is at least `-3·2^bits/2` and at most `3·2^bits/2` -/
theorem quot_facts (hpos : 0 < sq) {t : Rat} (ht : |t| ≤ hi - lo) :
    ∃ q, F.fl (.fin (t / sq)) = .fin q ∧ |q - t / sq| ≤ F.u * |t / sq| + F.eta ∧
      -(3 * (nStepsI bits + 1)) ≤ 2 * rhe q ∧ 2 * rhe q ≤ 3 * (nStepsI bits + 1) := by
  have hF := g.work
  obtain ⟨-, hW⟩ := g.grid_facts hpos
  obtain ⟨hN3, hN15⟩ := nStepsI_cast_bounds g.bits_eq
  have hu := (u_eta_work F hF).1
  have he := eta_le_milli F hF
  have habs : |t / sq| ≤ (hi - lo) / sq := by
    rw [abs_div, abs_of_pos hpos]; exact div_le_div_of_nonneg_right ht hpos.le
  have hfin := fl_fin_of_le F hF (t / sq)
    (by linarith only [habs, hW, hN15, work_maxFin_ge F hF])
  have herr := fl_err F hF hfin
  have hsmall : F.u * (3 * (nStepsI bits + 1) : Int) + 2 * F.eta < 1 := by
    have : F.u * (3 * ((nStepsI bits : Rat) + 1)) ≤ 1 / 250 * 48 :=
      mul_le_mul hu (by linarith only [hN15]) (by linarith only [hN3]) (by norm_num)
    push_cast; linarith only [this, he]
  exact ⟨_, hfin, herr,
    two_rhe_le F.u_nonneg hsmall (by push_cast; linarith only [habs, hW]) herr⟩

/-- the zero-point is `round(fl(-lo/sq))`: the int8 conversion does not wrap -/
theorem zero_facts (hpos : 0 < sq) :
    ∃ zf, F.fl (.fin (-lo / sq)) = .fin zf ∧ |zf - -lo / sq| ≤ F.u * (-lo / sq) + F.eta ∧
      maxOptZero F (.fin lo) (.fin sq) = rhe zf ∧ 0 ≤ rhe zf ∧
      2 * rhe zf ≤ 3 * (nStepsI bits + 1) := by
  have hlo := g.lo_le
  have hhi := g.hi_ge
  obtain ⟨zf, hfin, herr, -, hz1⟩ := g.quot_facts hpos (t := -lo)
    (by rw [abs_of_nonneg (neg_nonneg.mpr hlo)]; linarith only [hhi])
  obtain ⟨hN3, hN15⟩ := nStepsI_bounds g.bits_eq
  have hb0 : 0 ≤ -lo / sq := div_nonneg (neg_nonneg.mpr hlo) hpos.le
  rw [abs_of_nonneg hb0] at herr
  -- `zf ≥ -η`, so it does not round below zero
  have hz0 : 0 ≤ rhe zf := by
    have h1 : F.u * (-lo / sq) ≤ -lo / sq :=
      mul_le_of_le_one_left hb0 ((u_eta_work F g.work).1.trans (by norm_num))
    have : -1 < rhe zf := (Int.cast_lt (R := Rat)).mp (by
      push_cast
      linarith only [(abs_le.mp (rhe_err zf)).1, (abs_le.mp herr).1, eta_le_milli F g.work, h1])
    omega
  exact ⟨zf, hfin, herr, maxOptZero_fin F lo sq zf hpos.ne' hfin (by omega) (by omega), hz0, hz1⟩

theorem zero_le_normal (hnorm : pow2 F.emin ≤ sq) :
    maxOptZero F (.fin lo) (.fin sq) ≤ nStepsI bits := by
  have hF := g.work
  have hlo := g.lo_le
  have hhi := g.hi_ge
  have hpos : 0 < sq := lt_of_lt_of_le (pow2_pos _) hnorm
  obtain ⟨zf, -, herr, hz, -, -⟩ := g.zero_facts hpos
  obtain ⟨hW, -⟩ := g.grid_facts hpos
  obtain ⟨hN3, hN15⟩ := nStepsI_bounds g.bits_eq
  have he' : F.eta / sq ≤ F.u := by
    rw [div_le_iff₀ hpos]
    exact (eta_le_u_normal F hF).trans (mul_le_mul_of_nonneg_left hnorm F.u_nonneg)
  rw [hz]
  exact zero_le_core (by omega) hN15 (u_eta_work F hF).1 (eta_le_milli F hF)
    (div_nonneg F.eta_nonneg hpos.le) he'
    (div_nonneg (neg_nonneg.mpr hlo) hpos.le)
    (div_le_div_of_nonneg_right (by linarith only [hhi]) hpos.le) hW
    (rhe_sub_le herr)

theorem bound_main (hpos : 0 < sq) {x yq : Rat} (hx1 : lo ≤ x) (hx2 : x ≤ hi)
    (hy : affDeq F (affCode F bits (.fin x) (.fin sq) (maxOptZero F (.fin lo) (.fin sq))) (.fin sq)
      (maxOptZero F (.fin lo) (.fin sq)) = .fin yq) :
    |yq - x| ≤ sq / 2 + (F.u * |x| + 6 * F.u * (2 : Rat) ^ bits * sq +
      ((2 : Rat) ^ bits + 4) * F.eta + 3 * sq * F.eta) := by
  have hF := g.work
  obtain ⟨zf, -, hzerr, hz, hz0, hz1⟩ := g.zero_facts hpos
  obtain ⟨d, hdfin, hderr, hr0, hr1⟩ := g.quot_facts hpos (g.abs_le_width hx1 hx2)
  obtain ⟨hW, hW2⟩ := g.grid_facts hpos
  obtain ⟨hN3, hN15⟩ := nStepsI_bounds g.bits_eq
  -- the stored code is `clamp (r + z)` and the dequantized value `fl (sq·(clamp (r + z) - z))`
  rw [hz, affCode_fin F hF bits g.bits_eq x sq d _ hpos.ne' hdfin
      (abs_lt.mpr ⟨by omega, by omega⟩),
    affDeq_fin F _ sq _ (by omega) (by omega) (by omega) (by omega)] at hy
  have hyerr := fl_err F hF hy
  rw [abs_mul, abs_of_pos hpos] at hyerr
  -- in grid units, i.e. after division by `sq`
  rw [show (hi - lo) / sq = -lo / sq + hi / sq by ring] at hW hW2
  have key := half_step_core (hN0 := by omega) (hN := hN15) (hu0 := F.u_nonneg)
    (hu := (u_eta_work F hF).1) (he0 := F.eta_nonneg) (he0' := div_nonneg F.eta_nonneg hpos.le)
    (hb0 := div_nonneg (neg_nonneg.mpr g.lo_le) hpos.le) (hh0 := div_nonneg g.hi_ge hpos.le)
    (ha1 := by rw [neg_div, neg_neg]; exact div_le_div_of_nonneg_right hx1 hpos.le)
    (ha2 := div_le_div_of_nonneg_right hx2 hpos.le) (hW := hW) (hW2 := hW2) (hd := hderr)
    (hzf := hzerr) (hz0 := hz0) (hz1 := hz1) (hn := rfl)
    (hy := abs_div_sub_le hpos
      (by rw [mul_add, mul_div_cancel₀ _ hpos.ne', mul_left_comm]; exact hyerr))
  -- back to the units of `x`
  rw [← sub_div, abs_div, abs_of_pos hpos, div_le_iff₀ hpos, abs_div, abs_of_pos hpos] at key
  rw [two_pow_eq]
  refine key.trans_eq ?_
  field_simp
  ring

end IsScale

/-- the bound also holds when the scale underflows to zero: the whole group is then below
`(N+5)·η` and dequantizes to 0. -/
theorem IsScale.bound_zero_scale {F : Fmt} {bits : Nat} {lo hi x yq : Rat}
    (g : IsScale F bits lo hi 0) (hx1 : lo ≤ x) (hx2 : x ≤ hi)
    {c : Nat} {z : Int} (hy : affDeq F c (.fin 0) z = .fin yq) :
    |yq - x| ≤ F.u * |x| + ((2 : Rat) ^ bits + 4) * F.eta := by
  obtain ⟨-, -, hD, -⟩ := g.scale_facts
  obtain ⟨hN3, hN15⟩ := nStepsI_cast_bounds g.bits_eq
  have he0 := F.eta_nonneg
  rw [affDeq_zero_scale F g.work] at hy
  rw [← FV.fin.inj hy, zero_sub, abs_neg, two_pow_eq]
  rw [mul_zero, zero_add] at hD
  have hux : 0 ≤ F.u * |x| := mul_nonneg F.u_nonneg (abs_nonneg x)
  have hNe : (nStepsI bits : Rat) * F.eta ≤ 15 * F.eta := mul_le_mul_of_nonneg_right hN15 he0
  calc |x| ≤ hi - lo := g.abs_le_width hx1 hx2
    _ ≤ (1 + 3 * F.u) * (((nStepsI bits : Rat) + 1) * F.eta) := hD
    _ ≤ (1 + 3 * (1 / 250)) * (((nStepsI bits : Rat) + 1) * F.eta) :=
      mul_le_mul_of_nonneg_right (by linarith only [(u_eta_work F g.work).1])
        (mul_nonneg (by linarith only [hN3]) he0)
    _ ≤ F.u * |x| + ((nStepsI bits : Rat) + 1 + 4) * F.eta := by linarith only [hux, hNe, he0]

/-- idempotence for a representable positive scale, a zero-point in `[0, K]` and any code:
`K` is limited by the precision of the format through `hsmall`. -/
theorem affCode_affDeq (F : Fmt) (hF : WorkFmt F) (bits : Nat) (hb : bits = 2 ∨ bits = 4)
    (sq : Rat) (hrep : F.Rep sq) (hpos : 0 < sq) (z K : Int) (hz0 : 0 ≤ z) (hz1 : z ≤ K)
    (hK15 : 15 ≤ K) (hK127 : K ≤ 127) (hsmall : F.u * (2 * (K : Rat) + 1) + F.eta < 1 / 2)
    (c : Nat) (hc : c < 2 ^ bits) (yq : Rat) (hy : affDeq F c (.fin sq) z = .fin yq) :
    affCode F bits (.fin yq) (.fin sq) z = c := by
  obtain ⟨hN3, hN15⟩ := nStepsI_bounds hb
  have hcI : (c : Int) ≤ nStepsI bits := by
    have : ((c : Nat) : Int) < ((2 ^ bits : Nat) : Int) := by exact_mod_cast hc
    unfold nStepsI; push_cast at this; omega
  have hdeq := affDeq_fin F (c : Int) sq z (by omega) (by omega) (by omega) (by omega)
  rw [Int.toNat_natCast] at hdeq
  rw [hdeq] at hy
  obtain ⟨n, hn⟩ : ∃ n, n = (c : Int) - z := ⟨_, rfl⟩
  rw [← hn] at hy
  have hK1 : (K : Rat) ≤ 65000 := by exact_mod_cast hK127.trans (by norm_num)
  have hnabs : |(n : Rat)| ≤ K := by
    have : |n| ≤ K := abs_le.mpr ⟨by omega, by omega⟩
    exact_mod_cast this
  obtain ⟨d, hd, hr⟩ := rhe_fl_div_near F hF hpos hnabs hK1 hsmall
    (mul_int_err F hF hrep hpos hy)
  rw [affCode_fin F hF bits hb yq sq d z hpos.ne' hd (by rw [hr, abs_lt]; constructor <;> omega),
    hr, show max 0 (min (n + z) (nStepsI bits)) = (c : Int) by omega, Int.toNat_natCast]

end Quanto
