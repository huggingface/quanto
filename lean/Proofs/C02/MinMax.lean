/-
`ratMin` / `ratMax` of the executable specifications are `min` / `max`.
-/
import Quanto.Spec.C02
import Mathlib.Algebra.Order.Field.Rat

namespace Quanto

theorem ratMin_eq_min (a b : Rat) : ratMin a b = min a b := by
  unfold ratMin; split_ifs with h
  · exact (min_eq_left h).symm
  · exact (min_eq_right (le_of_not_ge h)).symm

theorem ratMax_eq_max (a b : Rat) : ratMax a b = max a b := by
  unfold ratMax; split_ifs with h
  · exact (max_eq_right h).symm
  · exact (max_eq_left (le_of_not_ge h)).symm

end Quanto
