/-
Rational arithmetic behind C02, about variables only, in grid units (after division by the step
`s ≈ D/N`, `D = hi - lo`): `a = x/s`, `b = -lo/s`, `h = hi/s`, `η' = η/s`, zero-point `z ≈ b`, rounded
quotient `r ≈ a`, stored code `clamp (r + z)`, dequantized value `≈ clamp (r + z) - z`.
-/
import Proofs.Float.Round

namespace Quanto

/-! ### the step -/

/-- the step `s` is a rounding of `v = w/N`, where `w` is a rounding of the width `D`: it is at
most the exact step `D/N` plus rounding, and `N` steps cover the width up to rounding -/
theorem step_bounds {u η s D w v N : Rat} (hu0 : 0 ≤ u) (hu : u ≤ 1 / 5) (he0 : 0 ≤ η)
    (hN : 2 ≤ N) (hD : 0 ≤ D) (hw0 : 0 ≤ w) (hv : v * N = w)
    (hw : |w - D| ≤ u * |D| + η) (hs : |s - v| ≤ u * |v| + η) :
    s ≤ D / N * (1 + 3 * u) + 2 * η ∧ D ≤ (1 + 3 * u) * (N * s + (N + 1) * η) := by
  have hN0 : 0 < N := two_pos.trans_le hN
  have hv0 : 0 ≤ v := nonneg_of_mul_nonneg_left (hv ▸ hw0) hN0
  rw [abs_of_nonneg hD] at hw
  rw [abs_of_nonneg hv0] at hs
  obtain ⟨hw1, hw2⟩ := abs_le.mp hw
  obtain ⟨hs1, hs2⟩ := abs_le.mp hs
  have hu1 : 0 ≤ 1 - u := by linarith only [hu]
  have hu2 : 0 ≤ 1 + u := by linarith only [hu0]
  constructor
  · have h3 : v ≤ D / N * (1 + u) + η / 2 :=
      calc v = v * N / N := (mul_div_cancel_right₀ v hN0.ne').symm
        _ ≤ (D * (1 + u) + η) / N :=
          div_le_div_of_nonneg_right (by rw [hv]; linarith only [hw2]) hN0.le
        _ = D / N * (1 + u) + η / N := by ring
        _ ≤ D / N * (1 + u) + η / 2 :=
          add_le_add le_rfl (div_le_div_of_nonneg_left he0 two_pos hN)
    have hg : 0 ≤ D / N := div_nonneg hD hN0.le
    calc s ≤ v * (1 + u) + η := by linarith only [hs2]
      _ ≤ (D / N * (1 + u) + η / 2) * (1 + u) + η :=
        add_le_add (mul_le_mul_of_nonneg_right h3 hu2) le_rfl
      _ = D / N * (1 + 3 * u) + 2 * η - (D / N * (u * (1 - u)) + η / 2 * (1 - u)) := by ring
      _ ≤ D / N * (1 + 3 * u) + 2 * η :=
        sub_le_self _ (add_nonneg (mul_nonneg hg (mul_nonneg hu0 hu1))
          (mul_nonneg (div_nonneg he0 zero_le_two) hu1))
  · have h2 : w * (1 - u) ≤ N * s + N * η :=
      calc w * (1 - u) = N * (v * (1 - u)) := by rw [← hv]; ring
        _ ≤ N * (s + η) := mul_le_mul_of_nonneg_left (by linarith only [hs1]) hN0.le
        _ = N * s + N * η := by ring
    have h3 : D * ((1 - u) * (1 - u)) ≤ N * s + (N + 1) * η :=
      calc D * ((1 - u) * (1 - u)) = D * (1 - u) * (1 - u) := by ring
        _ ≤ (w + η) * (1 - u) := mul_le_mul_of_nonneg_right (by linarith only [hw1]) hu1
        _ ≤ N * s + (N + 1) * η := by linarith only [h2, mul_nonneg he0 hu0]
    have h4 : 1 ≤ (1 + 3 * u) * ((1 - u) * (1 - u)) := by
      rw [show (1 + 3 * u) * ((1 - u) * (1 - u)) = 1 + (u * (1 - 5 * u) + 3 * (u * u * u)) by ring]
      exact le_add_of_nonneg_right (add_nonneg (mul_nonneg hu0 (by linarith only [hu]))
        (mul_nonneg zero_le_three (mul_nonneg (mul_nonneg hu0 hu0) hu0)))
    calc D ≤ D * ((1 + 3 * u) * ((1 - u) * (1 - u))) := le_mul_of_one_le_right hD h4
      _ = (1 + 3 * u) * (D * ((1 - u) * (1 - u))) := by ring
      _ ≤ (1 + 3 * u) * (N * s + (N + 1) * η) :=
        mul_le_mul_of_nonneg_left h3 (by linarith only [hu0])

/-! ### the range in grid units -/

theorem grid_range {N u η s D : Rat} (hs : 0 < s) (hD : D ≤ (1 + 3 * u) * (N * s + (N + 1) * η)) :
    D / s ≤ (1 + 3 * u) * (N + (N + 1) * (η / s)) := by
  rw [div_le_iff₀ hs]
  exact hD.trans_eq (by field_simp)

theorem grid_range_const {N u η' c W : Rat} (hN0 : 0 ≤ N) (hu : u ≤ 1 / 250) (he0' : 0 ≤ η')
    (he' : η' ≤ c) (hW : W ≤ (1 + 3 * u) * (N + (N + 1) * η')) :
    W ≤ (1 + 3 * (1 / 250)) * (N + (N + 1) * c) :=
  have hN1 : 0 ≤ N + 1 := add_nonneg hN0 zero_le_one
  hW.trans (mul_le_mul (by linarith only [hu])
    (add_le_add_right (mul_le_mul_of_nonneg_left he' hN1) N)
    (add_nonneg hN0 (mul_nonneg hN1 he0')) (by norm_num))

/-! ### rounded quotients -/

theorem two_rhe_le {K : Int} {u η t q : Rat} (hu0 : 0 ≤ u) (hsmall : u * K + 2 * η < 1)
    (ht : 2 * |t| ≤ K - 1) (hq : |q - t| ≤ u * |t| + η) : -K ≤ 2 * rhe q ∧ 2 * rhe q ≤ K := by
  obtain ⟨h1, h2⟩ := abs_le.mp (rhe_sub_le hq)
  obtain ⟨h3, h4⟩ := abs_le.mp (le_refl |t|)
  have h5 : u * (2 * |t|) ≤ u * (K - 1) := mul_le_mul_of_nonneg_left ht hu0
  have h6 : -K - 1 < 2 * rhe q := (Int.cast_lt (R := Rat)).mp
    (by push_cast; linarith only [h1, h3, h5, ht, hsmall, hu0])
  have h7 : 2 * rhe q < K + 1 := (Int.cast_lt (R := Rat)).mp
    (by push_cast; linarith only [h2, h4, h5, ht, hsmall, hu0])
  omega

/-- `clamp (r + z) - z` is as close to `a` as `r` is, unless `z` is further from `b` or the range
`a + b ∈ [0, W]` overshoots the `N` steps -/
theorem clamp_debias {N r z : Int} {a b W α β γ : Rat} (hN : 0 ≤ N) (h0 : 0 ≤ a + b)
    (hW : a + b ≤ W) (hNW : N ≤ W) (hr : |(r : Rat) - a| ≤ α) (hz : |(z : Rat) - b| ≤ β)
    (hα : α ≤ γ) (hβ : β + (W - N) ≤ γ) :
    |((max 0 (min (r + z) N) - z : Int) : Rat) - a| ≤ γ := by
  obtain ⟨hr1, hr2⟩ := abs_le.mp hr
  obtain ⟨hz1, hz2⟩ := abs_le.mp hz
  rw [abs_le]
  rcases lt_or_ge (r + z) 0 with h1 | h1
  · have : (r : Rat) + z < 0 := by exact_mod_cast h1
    rw [show max 0 (min (r + z) N) = 0 by omega]
    constructor <;> push_cast <;> linarith only [this, hr1, hz1, h0, hα, hβ, hNW]
  rcases lt_or_ge N (r + z) with h2 | h2
  · have : (N : Rat) < (r : Rat) + z := by exact_mod_cast h2
    rw [show max 0 (min (r + z) N) = N by omega]
    constructor <;> push_cast <;> linarith only [this, hr2, hz2, hW, hα, hβ]
  · rw [show max 0 (min (r + z) N) = r + z by omega]
    constructor <;> push_cast <;> linarith only [hr1, hr2, hα]

/-- the half-step bound, in grid units: `d ≈ a` is the computed quotient, `zf ≈ b` the computed
zero-point before rounding, `yg ≈ n` the dequantized value of the code `n + rhe zf`; `hW`, `hW2`
bound the range `b + h` in steps.  Two error sources: the code against the quotient
(`clamp_debias`) and the dequantized value against the code (`hy`); the relative terms `u·b`,
`u·|n|` and the overshoot of the range are absorbed in `6u(N+1)`. -/
theorem half_step_core {N n : Int} {u η η' a b h d zf yg : Rat} (hN0 : 0 ≤ N) (hN : N ≤ 15)
    (hu0 : 0 ≤ u) (hu : u ≤ 1 / 250) (he0 : 0 ≤ η) (he0' : 0 ≤ η') (hb0 : 0 ≤ b) (hh0 : 0 ≤ h)
    (ha1 : -b ≤ a) (ha2 : a ≤ h) (hW : b + h ≤ (1 + 3 * u) * (N + (N + 1) * η'))
    (hW2 : 2 * (b + h) ≤ 3 * (N + 1) - 1)
    (hd : |d - a| ≤ u * |a| + η) (hzf : |zf - b| ≤ u * b + η)
    (hz0 : 0 ≤ rhe zf) (hz1 : 2 * rhe zf ≤ 3 * (N + 1))
    (hn : n = max 0 (min (rhe d + rhe zf) N) - rhe zf) (hy : |yg - n| ≤ u * |(n : Rat)| + η') :
    |yg - a| ≤ 1 / 2 + (u * |a| + 6 * u * (N + 1) + (N + 5) * η' + 3 * η) := by
  have hN0' : (0 : Rat) ≤ N := by exact_mod_cast hN0
  have hN' : (N : Rat) ≤ 15 := by exact_mod_cast hN
  have hNe : 0 ≤ ((N : Rat) + 1) * η' := mul_nonneg (by linarith only [hN0']) he0'
  -- the code against the quotient; `W - N` is the overshoot of the range
  obtain ⟨W, hWdef⟩ : ∃ W, W = (1 + 3 * u) * (N + (N + 1) * η') := ⟨_, rfl⟩
  have hWN : W - N = 3 * u * N + (1 + 3 * u) * ((N + 1) * η') := by rw [hWdef]; ring
  have hWN0 : 0 ≤ W - N := hWN ▸ add_nonneg (mul_nonneg (mul_nonneg (by norm_num) hu0) hN0')
    (mul_nonneg (by linarith only [hu0]) hNe)
  have hea : 0 ≤ u * |a| + η := add_nonneg (mul_nonneg hu0 (abs_nonneg a)) he0
  have heb : 0 ≤ u * b + η := add_nonneg (mul_nonneg hu0 hb0) he0
  have habW : a + b ≤ W := by
    rw [hWdef]; exact ((add_le_add_left ha2 b).trans_eq (add_comm h b)).trans hW
  have hstep : |(n : Rat) - a| ≤ 1 / 2 + (u * |a| + η) + (u * b + η) + (W - N) := by
    rw [hn]
    exact clamp_debias hN0 (neg_le_iff_add_nonneg.mp ha1) habW (sub_nonneg.mp hWN0)
      (rhe_sub_le hd) (rhe_sub_le hzf)
      ((le_add_of_nonneg_right heb).trans (le_add_of_nonneg_right hWN0))
      (add_le_add_left (add_le_add_left (le_add_of_nonneg_right hea) _) _)
  -- the dequantized value against the code; `b`, `|n|` are at most `3(N+1)/2`
  have hc0 : 0 ≤ n + rhe zf := by rw [hn, sub_add_cancel]; exact le_max_left _ _
  have hcN : n + rhe zf ≤ N := by rw [hn, sub_add_cancel]; exact max_le hN0 (min_le_right _ _)
  have hnabs : 2 * |(n : Rat)| ≤ 3 * (N + 1) := by
    clear hn
    have : 2 * |n| ≤ 3 * (N + 1) := by
      rw [← abs_two, ← abs_mul]; exact abs_le.mpr ⟨by omega, by omega⟩
    exact_mod_cast this
  have h1 : u * (2 * b) ≤ u * (3 * (N + 1)) :=
    mul_le_mul_of_nonneg_left (by linarith only [hh0, hW2]) hu0
  have h2 : u * (2 * |(n : Rat)|) ≤ u * (3 * (N + 1)) := mul_le_mul_of_nonneg_left hnabs hu0
  have h3 : (N : Rat) * η' ≤ 15 * η' := mul_le_mul_of_nonneg_right hN' he0'
  have h4 : (1 + 3 * u) * ((N + 1) * η') ≤ (1 + 3 * (1 / 250)) * ((N + 1) * η') :=
    mul_le_mul_of_nonneg_right (by linarith only [hu]) hNe
  calc |yg - a| ≤ |yg - n| + |(n : Rat) - a| := abs_sub_le _ _ _
    _ ≤ u * |(n : Rat)| + η' + (1 / 2 + (u * |a| + η) + (u * b + η) + (W - N)) :=
      add_le_add hy hstep
    _ = 1 / 2 + u * |a| + (u * b + u * |(n : Rat)| + 3 * u * N) +
        ((1 + 3 * u) * ((N + 1) * η') + η') + 2 * η := by rw [hWN]; ring
    _ ≤ 1 / 2 + (u * |a| + 6 * u * (N + 1) + (N + 5) * η' + 3 * η) := by
      linarith only [h1, h2, h3, h4, hu0, he0, he0']

/-- with `η' ≤ u` (a normal scale) the zero-point is at most `N` -/
theorem zero_le_core {N z : Int} {u η η' b W : Rat} (hN0 : 0 ≤ N) (hN : N ≤ 15)
    (hu : u ≤ 1 / 250) (he : η ≤ 1 / 1000) (he0' : 0 ≤ η') (he' : η' ≤ u) (hb0 : 0 ≤ b)
    (hbW : b ≤ W) (hW : W ≤ (1 + 3 * u) * (N + (N + 1) * η'))
    (hz : |(z : Rat) - b| ≤ 1 / 2 + (u * b + η)) : z ≤ N := by
  have hN0' : (0 : Rat) ≤ N := by exact_mod_cast hN0
  have hN' : (N : Rat) ≤ 15 := by exact_mod_cast hN
  have h1 : u * b ≤ 1 / 250 * b := mul_le_mul_of_nonneg_right hu hb0
  -- `b ≤ W ≤ 1.012·(N + (N+1)/250)`, so `z ≤ 1.004·b + 0.501 < N + 1`
  have h3 := grid_range_const hN0' hu he0' (he'.trans hu) hW
  have : z < N + 1 := (Int.cast_lt (R := Rat)).mp
    (by push_cast; linarith only [(abs_le.mp hz).2, h1, h3, hbW, he, hN'])
  omega

end Quanto
