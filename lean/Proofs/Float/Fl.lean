/-
`Fmt.fl` for an arbitrary format and for IEEE formats inside float32 (`Fmt.InF32`: float32 rounds
once, the half formats round to float32 first).  `Fmt.flR` is the finite result as a function;
`InF32.fl_cases` says when `fl` produces it; `err_comp` composes two rounding errors.
-/
import Proofs.Float.Round
import Proofs.Float.FV

namespace Quanto

/-! ### the error constants -/

theorem Fmt.u_of_not_half {F : Fmt} (h : F.isHalf = false) : F.u = F.u1 := by
  unfold Fmt.u; rw [h]; rfl

theorem Fmt.u_of_half {F : Fmt} (h : F.isHalf = true) :
    F.u = F.u1 + f32.u1 + F.u1 * f32.u1 := by
  unfold Fmt.u; rw [if_pos h]

theorem Fmt.eta_of_not_half {F : Fmt} (h : F.isHalf = false) : F.eta = F.eta1 := by
  unfold Fmt.eta; rw [h]; rfl

theorem Fmt.eta_of_half {F : Fmt} (h : F.isHalf = true) :
    F.eta = F.eta1 + (1 + F.u1) * f32.eta1 := by
  unfold Fmt.eta; rw [if_pos h]

theorem Fmt.u_nonneg (F : Fmt) : 0 ≤ F.u := by
  have := F.u1_pos
  have := f32.u1_pos
  unfold Fmt.u
  split_ifs <;> positivity

theorem Fmt.eta_nonneg (F : Fmt) : 0 ≤ F.eta := by
  have := F.u1_pos
  have := F.eta1_pos
  have := f32.eta1_pos
  unfold Fmt.eta
  split_ifs <;> positivity

theorem eta1_le_eta (F : Fmt) : F.eta1 ≤ F.eta := by
  cases h : F.isHalf
  · exact (Fmt.eta_of_not_half h).ge
  · rw [Fmt.eta_of_half h]
    exact le_add_of_nonneg_right (mul_nonneg (add_nonneg zero_le_one F.u1_pos.le) f32.eta1_pos.le)

/-- two roundings in a row: relative errors `b` then `a`, absolute errors `d` then `e` -/
theorem err_comp {a b d e x y z : Rat} (ha : 0 ≤ a) (h1 : |y - z| ≤ b * |z| + d)
    (h2 : |x - y| ≤ a * |y| + e) : |x - z| ≤ (a + b + a * b) * |z| + (e + (1 + a) * d) := by
  have t1 : |y| ≤ |z| + |y - z| := by
    have := abs_add_le z (y - z); rwa [add_sub_cancel] at this
  have t3 : a * |y| ≤ a * (|z| + (b * |z| + d)) :=
    mul_le_mul_of_nonneg_left (t1.trans (add_le_add_right h1 |z|)) ha
  calc |x - z| ≤ |x - y| + |y - z| := abs_sub_le x y z
    _ ≤ (a * (|z| + (b * |z| + d)) + e) + (b * |z| + d) :=
      add_le_add (h2.trans (add_le_add_left t3 e)) h1
    _ = (a + b + a * b) * |z| + (e + (1 + a) * d) := by ring

/-- the same with a multiplication by `m` between the two roundings -/
theorem err_comp_mul {u x m w v E1 E2 : Rat} (hu : 0 ≤ u) (h1 : |w - x| ≤ u * |x| + E1)
    (h2 : |v - w * m| ≤ u * |w * m| + E2) :
    |v - x * m| ≤ (u + u + u * u) * |x * m| + (E2 + (1 + u) * (|m| * E1)) := by
  refine err_comp hu ?_ h2
  calc |w * m - x * m| = |w - x| * |m| := by rw [← sub_mul, abs_mul]
    _ ≤ (u * |x| + E1) * |m| := mul_le_mul_of_nonneg_right h1 (abs_nonneg m)
    _ = u * |x * m| + |m| * E1 := by rw [abs_mul]; ring

/-- a rounded sum `y ≈ P + Q` of two approximations `P ≈ p`, `Q ≈ q` (relative to magnitudes `a`, `b`,
absolute part `η1`) -/
theorem err_comp_add {u η η1 a b P Q p q y : Rat} (hu : 0 ≤ u) (eP : |P - p| ≤ u * a + η1)
    (eQ : |Q - q| ≤ u * b + η1) (e : |y - (P + Q)| ≤ u * |P + Q| + η) :
    |y - (p + q)| ≤ u * |p + q| + (η + (1 + u) * (u * (a + b) + 2 * η1)) := by
  have hd : |P + Q - (p + q)| ≤ 0 * |p + q| + (u * (a + b) + 2 * η1) := by
    rw [zero_mul, add_sub_add_comm]
    exact (abs_add_le _ _).trans ((add_le_add eP eQ).trans_eq (by ring))
  exact (err_comp hu hd e).trans_eq (by ring)

/-- `1 ≤ (1 - u)(1 + 2u)` for `0 ≤ u ≤ 1/2`: a value is recovered from its rounding up to `1 + 2u` -/
theorem le_of_mul_one_sub_le (u z w : Rat) (hu0 : 0 ≤ u) (hu : 2 * u ≤ 1) (hz : 0 ≤ z)
    (h : z * (1 - u) ≤ w) : z ≤ w * (1 + 2 * u) := by
  have h1 := mul_le_mul_of_nonneg_right h (add_nonneg zero_le_one (mul_nonneg zero_le_two hu0))
  have h2 := mul_nonneg hz (mul_nonneg hu0 (sub_nonneg.2 hu))
  linarith only [h1, h2]

/-! ### `rndV`, `fl` and the operations on particular operands -/

theorem rndV_fin_inv (F : Fmt) (v : FV) (y : Rat) (h : F.rndV v = .fin y) : ∃ z, v = .fin z := by
  cases v with
  | fin z => exact ⟨z, rfl⟩
  | nan => cases h
  | _ => simp only [Fmt.rndV] at h; split at h <;> cases h

theorem Fmt.fl_of_not_half {F : Fmt} (h : F.isHalf = false) (v : FV) : F.fl v = F.rndV v := by
  unfold Fmt.fl; rw [h]; rfl

theorem Fmt.fl_of_half {F : Fmt} (h : F.isHalf = true) (v : FV) :
    F.fl v = F.rndV (f32.rndV v) :=
  if_pos h

theorem fl_fin_inv (F : Fmt) (v : FV) (y : Rat) (h : F.fl v = .fin y) : ∃ z, v = .fin z := by
  cases hh : F.isHalf
  · exact rndV_fin_inv F v y (Fmt.fl_of_not_half hh v ▸ h)
  · obtain ⟨w, hw⟩ := rndV_fin_inv F _ y (Fmt.fl_of_half hh v ▸ h)
    exact rndV_fin_inv f32 v w hw

theorem rndV_fin (F : Fmt) (q : Rat) : F.rndV (.fin q) = F.rnd q := rfl

theorem rndV_neg (F : Fmt) (hm : 0 ≤ F.maxFin) (v : FV) : F.rndV v.neg = (F.rndV v).neg := by
  cases v with
  | fin q => exact rnd_neg F hm q
  | pinf => simp only [FV.neg, Fmt.rndV]; cases F.ieee <;> rfl
  | ninf => simp only [FV.neg, Fmt.rndV]; cases F.ieee <;> rfl
  | nan => rfl

/-! ### `fl` and `div` on an infinite operand: the companion of `fl_cases` (finite input) -/

theorem fl_inf (F : Fmt) (hi : F.ieee = true) {v : FV} (hv : v = .pinf ∨ v = .ninf) :
    F.fl v = v := by
  have h : F.rndV v = v := by rcases hv with rfl | rfl <;> exact if_pos hi
  cases hh : F.isHalf
  · rw [Fmt.fl_of_not_half hh, h]
  · rw [Fmt.fl_of_half hh, show f32.rndV v = v by rcases hv with rfl | rfl <;> rfl, h]

theorem div_inf_nonneg (F : Fmt) (hi : F.ieee = true) {v : FV} (hv : v = .pinf ∨ v = .ninf)
    {b : Rat} (hb : 0 ≤ b) : F.div v (.fin b) = v := by
  have h : v.divX (.fin b) = v := by
    rcases hv with rfl | rfl <;> simp only [FV.divX, if_neg (not_lt.mpr hb)]
  unfold Fmt.div
  rw [h, fl_inf F hi hv]

/-! ### the operations on finite operands -/

theorem div_fin (F : Fmt) {a b : Rat} (hb : b ≠ 0) :
    F.div (.fin a) (.fin b) = F.fl (.fin (a / b)) := by
  unfold Fmt.div FV.divX
  simp only [if_neg hb]

theorem mul_fin (F : Fmt) (a b : Rat) : F.mul (.fin a) (.fin b) = F.fl (.fin (a * b)) := rfl

theorem add_fin (F : Fmt) (a b : Rat) : F.add (.fin a) (.fin b) = F.fl (.fin (a + b)) := rfl

theorem sub_fin (F : Fmt) (a b : Rat) : F.sub (.fin a) (.fin b) = F.fl (.fin (a - b)) := by
  rw [sub_eq_add_neg]; rfl

theorem mul_fin_inv (F : Fmt) (a b : FV) (y : Rat) (h : F.mul a b = .fin y) :
    ∃ x z, a = .fin x ∧ b = .fin z :=
  let ⟨w, hw⟩ := fl_fin_inv F _ y h
  mulX_fin_inv a b w hw

theorem div_fin_inv (F : Fmt) (a : FV) (k y : Rat) (h : F.div a (.fin k) = .fin y) :
    ∃ x, a = .fin x :=
  let ⟨w, hw⟩ := fl_fin_inv F _ y h
  divX_fin_inv a k w hw

theorem add_fin_inv (F : Fmt) (a b : FV) (y : Rat) (h : F.add a b = .fin y) :
    ∃ p q, a = .fin p ∧ b = .fin q :=
  let ⟨w, hw⟩ := fl_fin_inv F _ y h
  addX_fin_inv a b w hw

/-! ### formats inside float32 -/

/-- the rational that `fl` produces when it does not overflow -/
def Fmt.flR (F : Fmt) (z : Rat) : Rat :=
  if F.isHalf then F.rndFin (f32.rndFin z) else F.rndFin z

theorem Fmt.flR_of_not_half {F : Fmt} (h : F.isHalf = false) (z : Rat) :
    F.flR z = F.rndFin z := by
  unfold Fmt.flR; rw [h]; rfl

theorem Fmt.flR_of_half {F : Fmt} (h : F.isHalf = true) (z : Rat) :
    F.flR z = F.rndFin (f32.rndFin z) :=
  if_pos h

/-- an IEEE format whose finite values are float32 values -/
structure Fmt.InF32 (F : Fmt) : Prop where
  ieee : F.ieee = true
  one_le_p : 1 ≤ F.p
  p_le : F.p ≤ 24
  maxRep : F.Rep F.maxFin
  rep_f32 : ∀ v, F.Rep v → f32.Rep v
  maxLe : F.maxFin ≤ f32.maxFin
  emin_ge : f32.emin ≤ F.emin

theorem f32_not_half : f32.isHalf = false := by decide

theorem f32_one_le_p : 1 ≤ f32.p := by decide

theorem f32_inF32 : f32.InF32 where
  ieee := rfl
  one_le_p := f32_one_le_p
  p_le := by decide
  maxRep := maxFin_rep_of (by decide) (by decide)
  rep_f32 := fun _ hv => hv
  maxLe := le_refl _
  emin_ge := le_refl _

theorem u_f32 : f32.u = f32.u1 := Fmt.u_of_not_half f32_not_half

theorem fl_f32 (v : FV) : f32.fl v = f32.rndV v := Fmt.fl_of_not_half f32_not_half v

/-! ### `fl` on a finite input -/

namespace Fmt.InF32

variable {F : Fmt} (ok : F.InF32)
include ok

theorem rnd_cases (q : Rat) :
    (F.rnd q = .fin (F.rndFin q) ∧ |F.rndFin q| ≤ F.maxFin) ∨
    (F.rnd q = .pinf ∧ F.maxFin < q) ∨ (F.rnd q = .ninf ∧ q < -F.maxFin) := by
  cases h : F.rnd q with
  | fin r =>
    obtain ⟨rfl, hr⟩ := rnd_fin F q r h
    exact Or.inl ⟨rfl, hr⟩
  | pinf => exact Or.inr (Or.inl ⟨rfl, lt_of_rnd_pinf F ok.one_le_p ok.maxRep q h⟩)
  | ninf => exact Or.inr (Or.inr ⟨rfl, lt_of_rnd_ninf F ok.one_le_p ok.maxRep q h⟩)
  | nan => exact absurd h (rnd_not_nan_of_ieee F ok.ieee q)

theorem fl_cases (z : Rat) :
    (F.fl (.fin z) = .fin (F.flR z) ∧ |F.flR z| ≤ F.maxFin) ∨
    (F.fl (.fin z) = .pinf ∧ F.maxFin < z) ∨ (F.fl (.fin z) = .ninf ∧ z < -F.maxFin) := by
  cases hh : F.isHalf
  · rw [Fmt.fl_of_not_half hh, Fmt.flR_of_not_half hh]
    exact ok.rnd_cases z
  · -- through float32; what overflows there overflows in `F`, and `±F.maxFin` are float32 values
    rw [Fmt.fl_of_half hh, Fmt.flR_of_half hh, rndV_fin]
    rcases f32_inF32.rnd_cases z with h | h | h <;> rw [h.1]
    · rcases ok.rnd_cases (f32.rndFin z) with h' | h' | h'
      · exact Or.inl h'
      · exact Or.inr (Or.inl
          ⟨h'.1, lt_of_lt_rndFin f32 f32_one_le_p (ok.rep_f32 _ ok.maxRep) h'.2⟩)
      · exact Or.inr (Or.inr
          ⟨h'.1, lt_of_rndFin_lt f32 f32_one_le_p (ok.rep_f32 _ (rep_neg ok.maxRep)) h'.2⟩)
    · exact Or.inr (Or.inl ⟨if_pos ok.ieee, ok.maxLe.trans_lt h.2⟩)
    · exact Or.inr (Or.inr ⟨if_pos ok.ieee, h.2.trans_le (neg_le_neg ok.maxLe)⟩)

theorem rep_pow2_emin : f32.Rep (pow2 F.emin) :=
  rep_pow2 f32 f32_one_le_p _ (le_trans (by decide) ok.emin_ge)

end Fmt.InF32

theorem flR_err (F : Fmt) (z : Rat) : |F.flR z - z| ≤ F.u * |z| + F.eta := by
  cases h : F.isHalf
  · rw [Fmt.flR_of_not_half h, Fmt.u_of_not_half h, Fmt.eta_of_not_half h]
    exact rndFin_err F z
  · rw [Fmt.flR_of_half h, Fmt.u_of_half h, Fmt.eta_of_half h]
    exact err_comp F.u1_pos.le (rndFin_err f32 z) (rndFin_err F _)

/-- below the normal range the second rounding of a half format is purely absolute -/
theorem flR_err_sub_half {F : Fmt} (ok : F.InF32) (hh : F.isHalf = true) (z : Rat)
    (hz : |z| < pow2 F.emin) : |F.flR z - z| ≤ f32.u1 * |z| + (F.eta1 + f32.eta1) := by
  have hw := abs_rndFin_le_of_rep f32 f32_one_le_p ok.rep_pow2_emin hz.le
  have e2 : |F.rndFin (f32.rndFin z) - f32.rndFin z| ≤ 0 * |f32.rndFin z| + F.eta1 := by
    rw [zero_mul, zero_add]
    exact rndFin_err_subnormal F _ (hw.trans_lt (pow2_lt_pow2 (lt_add_one _)))
  rw [Fmt.flR_of_half hh]
  exact (err_comp le_rfl (rndFin_err f32 z) e2).trans_eq (by ring)

end Quanto
