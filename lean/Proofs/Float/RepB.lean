/-
A kernel-evaluable test for `Fmt.Rep`, so that a concrete value is shown representable by
evaluation.
-/
import Proofs.Float.Round

namespace Quanto

/-- guesses the exponent `j` from the bit length of the significand that `v` has at the smallest
exponent, then checks the witness `v = k·2^j` -/
def repB (F : Fmt) (v : Rat) : Bool :=
  let e0 := F.emin - (F.p : Int) + 1
  let j := e0 + (((v / pow2 e0).num.natAbs.log2 + 1 - F.p : Nat) : Int)
  (v / pow2 j).den == 1 && decide ((v / pow2 j).num.natAbs < 2 ^ F.p)

theorem repB_sound (F : Fmt) (v : Rat) (h : repB F v = true) : F.Rep v := by
  simp only [repB, Bool.and_eq_true, beq_iff_eq, decide_eq_true_eq] at h
  generalize (v / pow2 (F.emin - (F.p : Int) + 1)).num.natAbs.log2 + 1 - F.p = i at h
  obtain ⟨hden, hnum⟩ := h
  have := rep_of_pow2 (F := F) (k := (v / pow2 (F.emin - (F.p : Int) + 1 + (i : Int))).num)
    (j := F.emin - (F.p : Int) + 1 + (i : Int))
    (by rw [Int.abs_eq_natAbs]; exact_mod_cast hnum) (by omega)
  rwa [Rat.coe_int_num_of_den_eq_one hden, div_mul_cancel₀ _ (pow2_pos _).ne'] at this

end Quanto
