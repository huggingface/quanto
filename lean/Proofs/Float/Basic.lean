/- The primitives of the float model: `pow2`, `rabs`, `rhe`, `ilog2`. -/
import Quanto.Float
import Mathlib.Tactic.Linarith
import Mathlib.Tactic.Ring
import Mathlib.Tactic.Positivity
import Mathlib.Algebra.Order.Field.Rat
import Mathlib.Algebra.Order.Ring.Abs
import Mathlib.Algebra.Order.Field.Power
import Mathlib.Data.Rat.Cast.Order
import Mathlib.Data.Rat.Floor
import Mathlib.Tactic.NormNum

namespace Quanto

theorem pow2_eq (e : Int) : pow2 e = (2 : Rat) ^ e := by
  unfold pow2
  split
  · rename_i h
    conv_rhs => rw [← Int.toNat_of_nonneg h]
    rw [zpow_natCast]
  · rename_i h
    have h' : e = -((-e).toNat : Int) := by omega
    conv_rhs => rw [h']
    rw [zpow_neg, zpow_natCast, one_div]

theorem pow2_pos (e : Int) : 0 < pow2 e := by
  rw [pow2_eq]; positivity

theorem pow2_add (a b : Int) : pow2 (a + b) = pow2 a * pow2 b := by
  simp only [pow2_eq]
  exact zpow_add₀ (by norm_num) a b

theorem pow2_le_pow2 {a b : Int} (h : a ≤ b) : pow2 a ≤ pow2 b := by
  simp only [pow2_eq]
  exact zpow_le_zpow_right₀ (by norm_num) h

theorem pow2_lt_pow2 {a b : Int} (h : a < b) : pow2 a < pow2 b := by
  simp only [pow2_eq]
  exact zpow_lt_zpow_right₀ (by norm_num) h

theorem pow2_zero : pow2 0 = 1 := by rw [pow2_eq]; simp

theorem pow2_one : pow2 1 = 2 := by rw [pow2_eq]; simp

theorem pow2_succ (e : Int) : pow2 (e + 1) = 2 * pow2 e := by
  rw [pow2_add, pow2_one, mul_comm]

theorem pow2_natCast (n : Nat) : pow2 (n : Int) = (2 : Rat) ^ n := by
  rw [pow2_eq, zpow_natCast]

theorem pow2_sub (a b : Int) : pow2 (a - b) = pow2 a / pow2 b := by
  simp only [pow2_eq]
  exact zpow_sub₀ (by norm_num) a b

theorem pow2_of_nonneg {e : Int} (h : 0 ≤ e) : pow2 e = (((2 : Int) ^ e.toNat : Int) : Rat) := by
  unfold pow2
  rw [if_pos h]
  push_cast
  rfl

theorem abs_mul_pow2_lt {p : Nat} {k j : Int} {g : Rat} (hk : |k| < 2 ^ p) (hg : pow2 j ≤ g) :
    |(k : Rat) * pow2 j| < pow2 p * g := by
  have hk' : |(k : Rat)| < pow2 p := by
    rw [pow2_natCast]; exact_mod_cast hk
  rw [abs_mul, abs_of_pos (pow2_pos j)]
  exact (mul_lt_mul_of_pos_right hk' (pow2_pos j)).trans_le
    (mul_le_mul_of_nonneg_left hg (pow2_pos _).le)

theorem mul_pow2_of_le {c j : Int} (h : c ≤ j) (k : Int) :
    ∃ m : Int, (k : Rat) * pow2 j = (m : Rat) * pow2 c := by
  have e : pow2 j = pow2 (j - c) * pow2 c := by rw [← pow2_add, sub_add_cancel]
  exact ⟨k * 2 ^ (j - c).toNat, by
    rw [e, pow2_of_nonneg (sub_nonneg.mpr h), Int.cast_mul, mul_assoc]⟩

theorem rabs_eq (q : Rat) : rabs q = |q| := by
  unfold rabs
  split
  · rename_i h; rw [abs_of_neg h]
  · rename_i h; rw [abs_of_nonneg (not_lt.mp h)]

theorem one_le_abs_intCast {m : Int} (hm : m ≠ 0) : (1 : Rat) ≤ |(m : Rat)| := by
  rw [← Int.cast_abs, ← Int.cast_one (R := Rat), Int.cast_le]
  exact Int.one_le_abs hm

/-- Together with `rhe_eq_of` this characterises `rhe`; nothing below unfolds it again. -/
theorem rhe_spec (q : Rat) :
    |(rhe q : Rat) - q| < 1 / 2 ∨ |(rhe q : Rat) - q| = 1 / 2 ∧ rhe q % 2 = 0 := by
  have h1 : 0 ≤ q - q.floor := sub_nonneg.mpr (Rat.floor_le q)
  have h2 : q - q.floor < 1 := sub_lt_iff_lt_add'.mpr (Int.lt_floor_add_one q)
  unfold rhe
  generalize q.floor = f at *
  have e : ((f + 1 : Int) : Rat) - q = 1 - (q - f) := by rw [Int.cast_add]; ring
  rcases lt_trichotomy (q - f) (1 / 2) with ha | he | hb
  · rw [if_pos ha, abs_sub_comm, abs_of_nonneg h1]
    exact Or.inl ha
  · rw [if_neg he.not_lt, if_neg he.not_gt]
    right
    by_cases hc : f % 2 = 0
    · rw [if_pos hc, abs_sub_comm, abs_of_nonneg h1]
      exact ⟨he, hc⟩
    · rw [if_neg hc, e, he, sub_half, abs_of_pos (one_half_pos (α := Rat)), Int.add_emod,
        (Int.emod_two_eq_zero_or_one f).resolve_left hc]
      exact ⟨rfl, rfl⟩
  · rw [if_neg hb.not_gt, if_pos hb, e, abs_of_nonneg (sub_nonneg.mpr h2.le), sub_lt_comm, sub_half]
    exact Or.inl hb

theorem rhe_eq_of {q : Rat} {n : Int}
    (h : |(n : Rat) - q| < 1 / 2 ∨ |(n : Rat) - q| = 1 / 2 ∧ n % 2 = 0) : rhe q = n := by
  have hs := rhe_spec q
  generalize rhe q = m at hs ⊢
  by_contra hne
  -- distinct integers are at least 1 apart, so both distances are 1/2
  have h1 : (1 : Rat) ≤ |(m : Rat) - q| + |(n : Rat) - q| := by
    have := one_le_abs_intCast (sub_ne_zero.mpr hne)
    rw [Int.cast_sub] at this
    rw [abs_sub_comm (n : Rat)]
    exact this.trans (abs_sub_le _ _ _)
  rw [← add_halves (1 : Rat)] at h1
  rcases hs with hs | ⟨hs, em⟩
  · rcases h with h | ⟨h, -⟩
    · exact absurd h1 (add_lt_add hs h).not_ge
    · exact absurd h1 (add_lt_add_of_lt_of_le hs h.le).not_ge
  · rcases h with h | ⟨h, en⟩
    · exact absurd h1 (add_lt_add_of_le_of_lt hs.le h).not_ge
    · -- then `m`, `n` are even and at most 1 apart
      have h2 : |(m : Rat) - n| ≤ 1 :=
        (abs_sub_le (m : Rat) q n).trans_eq (by rw [hs, abs_sub_comm, h, add_halves])
      rw [← Int.cast_sub, ← Int.cast_abs, ← Int.cast_one, Int.cast_le] at h2
      exact hne (sub_eq_zero.mp (Int.eq_zero_of_abs_lt_dvd
        (Int.dvd_sub (Int.dvd_of_emod_eq_zero em) (Int.dvd_of_emod_eq_zero en))
        (Int.lt_add_one_iff.mpr h2)))

theorem rhe_err (q : Rat) : |(rhe q : Rat) - q| ≤ 1 / 2 := by
  rcases rhe_spec q with h | h
  · exact h.le
  · exact h.1.le

theorem rhe_sub_le {q t ε : Rat} (h : |q - t| ≤ ε) : |(rhe q : Rat) - t| ≤ 1 / 2 + ε :=
  calc |(rhe q : Rat) - t| ≤ |(rhe q : Rat) - q| + |q - t| := abs_sub_le _ _ _
    _ ≤ 1 / 2 + ε := add_le_add (rhe_err q) h

theorem rhe_int (n : Int) : rhe (n : Rat) = n :=
  rhe_eq_of (Or.inl (by rw [sub_self, abs_zero]; exact one_half_pos))

theorem rhe_neg (q : Rat) : rhe (-q) = -rhe q :=
  rhe_eq_of (by rw [Int.cast_neg, neg_sub_neg, abs_sub_comm, Int.neg_emod_two]; exact rhe_spec q)

theorem rhe_nearest (q : Rat) (n : Int) : |(rhe q : Rat) - q| ≤ |(n : Rat) - q| := by
  by_cases hn : n = rhe q
  · rw [hn]
  · -- `n` is at least 1 from `rhe q`, which is at most 1/2 from `q`
    have h1 : (1 : Rat) / 2 + 1 / 2 ≤ |(n : Rat) - q| + 1 / 2 :=
      calc (1 : Rat) / 2 + 1 / 2 = 1 := add_halves 1
        _ ≤ |((n - rhe q : Int) : Rat)| := one_le_abs_intCast (sub_ne_zero.mpr hn)
        _ = |(n : Rat) - rhe q| := by rw [Int.cast_sub]
        _ ≤ |(n : Rat) - q| + |q - rhe q| := abs_sub_le _ _ _
        _ ≤ |(n : Rat) - q| + 1 / 2 := by rw [abs_sub_comm q]; exact add_le_add_right (rhe_err q) _
    exact (rhe_err q).trans (le_of_add_le_add_right h1)

theorem rhe_mono {a b : Rat} (h : a ≤ b) : rhe a ≤ rhe b := by
  rcases h.eq_or_lt with rfl | hlt
  · exact le_refl _
  by_contra hc
  have h1 := (Int.cast_le (R := Rat)).mpr (Int.add_one_le_iff.mpr (not_le.mp hc))
  rw [Int.cast_add, Int.cast_one] at h1
  have : (rhe b : Rat) + 1 < rhe b + 1 :=
    calc (rhe b : Rat) + 1 ≤ rhe a := h1
      _ ≤ a + 1 / 2 := sub_le_iff_le_add'.mp (abs_le.mp (rhe_err a)).2
      _ < b + 1 / 2 := add_lt_add_left hlt _
      _ ≤ rhe b + 1 / 2 + 1 / 2 :=
        add_le_add_left (neg_le_sub_iff_le_add.mp (abs_le.mp (rhe_err b)).1) _
      _ = rhe b + 1 := by rw [add_assoc, add_halves]
  exact lt_irrefl _ this

theorem rhe_clamp (lo hi : Int) (r : Rat) :
    rhe (max (lo : Rat) (min r hi)) = max lo (min (rhe r) hi) := by
  have hm : Monotone rhe := fun _ _ h => rhe_mono h
  rw [hm.map_max, hm.map_min, rhe_int, rhe_int]

theorem pow2_log2_le {n : Nat} (hn : n ≠ 0) :
    pow2 n.log2 ≤ (n : Rat) ∧ (n : Rat) < pow2 (n.log2 + 1) := by
  rw [← Nat.cast_succ, pow2_natCast, pow2_natCast]
  exact ⟨by exact_mod_cast Nat.log2_self_le hn, by exact_mod_cast Nat.lt_log2_self⟩

theorem pow2_log2_bounds {N D : Nat} (hN : N ≠ 0) (hD : D ≠ 0) :
    pow2 ((N.log2 : Int) - D.log2 - 1) ≤ (N : Rat) / D ∧
      (N : Rat) / D < pow2 ((N.log2 : Int) - D.log2 - 1 + 1 + 1) := by
  obtain ⟨n1, n2⟩ := pow2_log2_le hN
  obtain ⟨d1, d2⟩ := pow2_log2_le hD
  constructor
  · rw [sub_sub, pow2_sub]
    exact div_le_div₀ (Nat.cast_nonneg N) n1 (Nat.cast_pos.mpr (Nat.pos_of_ne_zero hD)) d2.le
  · rw [show (N.log2 : Int) - D.log2 - 1 + 1 + 1 = (N.log2 + 1) - D.log2 by ring, pow2_sub]
    exact div_lt_div₀ n2 d1 (pow2_pos _).le (pow2_pos _)

theorem ilog2_spec {q : Rat} (hq : 0 < q) : pow2 (ilog2 q) ≤ q ∧ q < pow2 (ilog2 q + 1) := by
  have hb := pow2_log2_bounds (Int.natAbs_ne_zero.mpr (Rat.num_pos.mpr hq).ne') q.den_nz
  rw [Nat.cast_natAbs, abs_of_pos (Rat.num_pos.mpr hq), Rat.num_div_den] at hb
  unfold ilog2
  simp only
  split_ifs with h
  · exact ⟨h, hb.2⟩
  · exact ⟨hb.1, not_le.mp h⟩

theorem ilog2_le (q : Rat) (hq : 0 < q) : (2 : Rat) ^ (ilog2 q) ≤ q := by
  rw [← pow2_eq]; exact (ilog2_spec hq).1

theorem ilog2_abs_le {q : Rat} (hq : q ≠ 0) : pow2 (ilog2 |q|) ≤ |q| :=
  (ilog2_spec (abs_pos.mpr hq)).1

theorem abs_lt_ilog2 {q : Rat} (hq : q ≠ 0) : |q| < pow2 (ilog2 |q| + 1) :=
  (ilog2_spec (abs_pos.mpr hq)).2

end Quanto
