/-
The exact extended-real operations of the model on particular operands: signs and `ofSign`, products
and quotients that come out finite, `FV.max` and `FV.clamp` on finite values.
-/
import Proofs.Float.Basic

namespace Quanto

/-! ### negation -/

theorem sgn_neg (v : FV) : v.neg.sgn = -v.sgn := by
  cases v with
  | fin q =>
    simp only [FV.neg, FV.sgn]
    rcases lt_trichotomy q 0 with h | h | h
    · rw [if_pos (neg_pos.2 h), if_neg (lt_asymm h), if_pos h]; rfl
    · subst h; simp
    · rw [if_neg (lt_asymm (neg_neg_of_pos h)), if_pos (neg_neg_of_pos h), if_pos h]
  | pinf => rfl
  | ninf => rfl
  | nan => rfl

theorem ofSign_neg (s : Int) : FV.ofSign (-s) = (FV.ofSign s).neg := by
  unfold FV.ofSign
  rcases lt_trichotomy s 0 with h | h | h
  · rw [if_pos (by omega), if_neg (by omega), if_pos h]; rfl
  · subst h; rfl
  · rw [if_neg (by omega), if_pos (by omega), if_pos h]; rfl

theorem mulX_neg_right (a b : FV) : a.mulX b.neg = (a.mulX b).neg := by
  have key : ∀ a b : FV, FV.ofSign (a.sgn * b.neg.sgn) = (FV.ofSign (a.sgn * b.sgn)).neg := by
    intro a b; rw [sgn_neg, Int.mul_neg, ofSign_neg]
  cases a with
  | fin x =>
    cases b with
    | fin y => simp only [FV.mulX, FV.neg, mul_neg]
    | pinf => exact key (.fin x) .pinf
    | ninf => exact key (.fin x) .ninf
    | nan => rfl
  | pinf =>
    cases b with
    | fin y => exact key .pinf (.fin y)
    | pinf => rfl
    | ninf => rfl
    | nan => rfl
  | ninf =>
    cases b with
    | fin y => exact key .ninf (.fin y)
    | pinf => rfl
    | ninf => rfl
    | nan => rfl
  | nan => cases b <;> rfl

/-! ### finite results come from finite operands -/

theorem ofSign_ne_fin (s : Int) (z : Rat) : FV.ofSign s ≠ .fin z := by
  unfold FV.ofSign
  split_ifs <;> simp

theorem mulX_fin_inv (a b : FV) (z : Rat) (h : a.mulX b = .fin z) :
    ∃ x y, a = .fin x ∧ b = .fin y := by
  cases a <;> cases b
  case fin.fin => exact ⟨_, _, rfl, rfl⟩
  -- every other product is `nan` or `ofSign _`
  all_goals first | cases h | exact absurd h (ofSign_ne_fin _ _)

theorem divX_fin_inv (a : FV) (k z : Rat) (h : a.divX (.fin k) = .fin z) : ∃ x, a = .fin x := by
  cases a with
  | fin x => exact ⟨x, rfl⟩
  | nan => cases h
  | _ =>
    simp only [FV.divX] at h
    split_ifs at h
    exact absurd h (ofSign_ne_fin _ _)

theorem addX_fin_inv (a b : FV) (z : Rat) (h : a.addX b = .fin z) :
    ∃ x y, a = .fin x ∧ b = .fin y := by
  unfold FV.addX at h
  split at h <;> first | exact ⟨_, _, rfl, rfl⟩ | cases h

/-! ### `FV.max`, `FV.min`, `FV.clamp` on finite values -/

theorem FVmax_fin (a b : Rat) : FV.max (.fin a) (.fin b) = .fin (max a b) := by
  unfold FV.max
  simp only [FV.isNan, FV.le, Bool.false_eq_true, if_false, decide_eq_true_eq]
  split_ifs with h
  · rw [max_eq_right h]
  · rw [max_eq_left (le_of_not_ge h)]

theorem FVmin_fin (a b : Rat) : FV.min (.fin a) (.fin b) = .fin (min a b) := by
  unfold FV.min
  simp only [FV.isNan, FV.le, Bool.false_eq_true, if_false, decide_eq_true_eq]
  split_ifs with h
  · rw [min_eq_left h]
  · rw [min_eq_right (le_of_not_ge h)]

theorem clamp_fin {lo hi : Rat} (h : lo ≤ hi) (q : Rat) :
    (FV.fin q).clamp lo hi = .fin (max lo (min q hi)) := by
  show FV.fin (if q < lo then lo else if q > hi then hi else q) = _
  split_ifs with h1 h2
  · rw [max_eq_left ((min_le_left _ _).trans h1.le)]
  · rw [min_eq_right h2.le, max_eq_right h]
  · rw [min_eq_left (not_lt.mp h2), max_eq_right (not_lt.mp h1)]

theorem clamp_cases {lo hi : Rat} (h : lo ≤ hi) (v : FV) :
    v.clamp lo hi = .nan ∨ ∃ q, v.clamp lo hi = .fin q ∧ lo ≤ q ∧ q ≤ hi := by
  cases v with
  | nan => exact Or.inl rfl
  | pinf => exact Or.inr ⟨hi, rfl, h, le_rfl⟩
  | ninf => exact Or.inr ⟨lo, rfl, le_rfl, h⟩
  | fin q => exact Or.inr ⟨_, clamp_fin h q, le_max_left _ _, max_le h (min_le_right _ _)⟩

theorem clamp_intCast {NI : Int} (hN : 0 ≤ NI) (m : Int) :
    FV.clamp 0 (NI : Rat) (.fin (m : Rat)) = .fin ((max 0 (min m NI) : Int) : Rat) := by
  rw [clamp_fin (by exact_mod_cast hN)]; push_cast; rfl

theorem abs_clamp_sub_le {lo hi c : Rat} (h1 : lo ≤ c) (h2 : c ≤ hi) (r : Rat) :
    |max lo (min r hi) - c| ≤ |r - c| := by
  rcases le_total r lo with h | h
  · rw [max_eq_left ((min_le_left _ _).trans h), abs_of_nonpos (by linarith),
      abs_of_nonpos (by linarith)]
    linarith
  rcases le_total hi r with h' | h'
  · rw [min_eq_right h', max_eq_right (h1.trans h2), abs_of_nonneg (by linarith),
      abs_of_nonneg (by linarith)]
    linarith
  · rw [min_eq_left h', max_eq_right h]

end Quanto
