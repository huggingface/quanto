/-
The working formats float32, float16, bfloat16 (`WorkFmt`): they are formats inside float32, so `fl`
on a finite input is described by `fl_cases`; their constants; what follows for one rounding, for
exactly representable values and for compositions of roundings.
-/
import Proofs.Float.Fl

namespace Quanto

/-- the working (activation / weight) float formats -/
abbrev WorkFmt (F : Fmt) : Prop := F ∈ [f32, f16, bf16]

theorem WorkFmt.cases {F : Fmt} (hF : WorkFmt F) : F = f32 ∨ F = f16 ∨ F = bf16 := by
  simpa using hF

theorem WorkFmt.of_f32_or_f16 {F : Fmt} (h : F = f32 ∨ F = f16) : WorkFmt F := by
  rcases h with rfl | rfl <;> decide

theorem work_inF32 {F : Fmt} (hF : WorkFmt F) : F.InF32 := by
  rcases hF.cases with rfl | rfl | rfl
  · exact f32_inF32
  all_goals exact {
    ieee := rfl
    one_le_p := by decide
    p_le := by decide
    maxRep := maxFin_rep_of (by decide) (by decide)
    rep_f32 := fun _ hv => rep_mono (by decide) (by decide) hv
    maxLe := by decide +kernel
    emin_ge := by decide }

/-! ### `fl` on a finite input -/

section
variable (F : Fmt) (hF : WorkFmt F)
include hF

theorem fl_cases (z : Rat) :
    (F.fl (.fin z) = .fin (F.flR z) ∧ |F.flR z| ≤ F.maxFin) ∨
    (F.fl (.fin z) = .pinf ∧ F.maxFin < z) ∨ (F.fl (.fin z) = .ninf ∧ z < -F.maxFin) :=
  (work_inF32 hF).fl_cases z

theorem fl_fin {z r : Rat} (h : F.fl (.fin z) = .fin r) : r = F.flR z ∧ |r| ≤ F.maxFin := by
  rcases fl_cases F hF z with hc | hc | hc <;> rw [hc.1] at h <;> cases h
  exact ⟨rfl, hc.2⟩

theorem fl_fin_of_le (z : Rat) (h : |z| ≤ F.maxFin) : F.fl (.fin z) = .fin (F.flR z) := by
  rcases fl_cases F hF z with hc | hc | hc
  · exact hc.1
  · exact absurd (abs_le.mp h).2 hc.2.not_ge
  · exact absurd (abs_le.mp h).1 hc.2.not_ge

theorem le_flR_of_rep {v z : Rat} (hv : F.Rep v) (h : v ≤ z) : v ≤ F.flR z := by
  have ok := work_inF32 hF
  cases hh : F.isHalf
  · rw [Fmt.flR_of_not_half hh]; exact le_rndFin_of_rep F ok.one_le_p hv h
  · rw [Fmt.flR_of_half hh]
    exact le_rndFin_of_rep F ok.one_le_p hv (le_rndFin_of_rep f32 f32_one_le_p (ok.rep_f32 v hv) h)

theorem flR_le_of_rep {v z : Rat} (hv : F.Rep v) (h : z ≤ v) : F.flR z ≤ v := by
  have ok := work_inF32 hF
  cases hh : F.isHalf
  · rw [Fmt.flR_of_not_half hh]; exact rndFin_le_of_rep F ok.one_le_p hv h
  · rw [Fmt.flR_of_half hh]
    exact rndFin_le_of_rep F ok.one_le_p hv (rndFin_le_of_rep f32 f32_one_le_p (ok.rep_f32 v hv) h)

theorem abs_flR_le_of_rep {v z : Rat} (hv : F.Rep v) (h : |z| ≤ v) : |F.flR z| ≤ v :=
  abs_le.mpr ⟨le_flR_of_rep F hF (rep_neg hv) (abs_le.mp h).1,
    flR_le_of_rep F hF hv (abs_le.mp h).2⟩

theorem fl_of_rep {v : Rat} (hv : F.Rep v) (hm : |v| ≤ F.maxFin) : F.fl (.fin v) = .fin v := by
  rw [fl_fin_of_le F hF v hm]
  exact congrArg _
    (le_antisymm (flR_le_of_rep F hF hv (le_refl v)) (le_flR_of_rep F hF hv (le_refl v)))

theorem fl_err {z r : Rat} (h : F.fl (.fin z) = .fin r) : |r - z| ≤ F.u * |z| + F.eta := by
  obtain ⟨rfl, -⟩ := fl_fin F hF h
  exact flR_err F z

theorem fl_err_normal {z r : Rat} (hz : pow2 F.emin ≤ |z|) (h : F.fl (.fin z) = .fin r) :
    |r - z| ≤ F.u * |z| := by
  obtain ⟨rfl, -⟩ := fl_fin F hF h
  have ok := work_inF32 hF
  cases hh : F.isHalf
  · rw [Fmt.flR_of_not_half hh, Fmt.u_of_not_half hh]
    exact rndFin_err_normal F z hz
  · rw [Fmt.flR_of_half hh, Fmt.u_of_half hh]
    have e1 := rndFin_err_normal f32 z ((pow2_le_pow2 ok.emin_ge).trans hz)
    -- the float32 rounding stays in the normal range of `F`
    have e2 := rndFin_err_normal F _
      (le_abs_rndFin_of_rep f32 f32_one_le_p ok.rep_pow2_emin hz)
    exact (err_comp F.u1_pos.le (e1.trans_eq (add_zero _).symm)
      (e2.trans_eq (add_zero _).symm)).trans_eq (by ring)

theorem flR_rep (z : Rat) : F.Rep (F.flR z) := by
  cases hh : F.isHalf
  · rw [Fmt.flR_of_not_half hh]; exact rndFin_rep _ (work_inF32 hF).one_le_p _
  · rw [Fmt.flR_of_half hh]; exact rndFin_rep _ (work_inF32 hF).one_le_p _

theorem flR_nonneg {z : Rat} (hz : 0 ≤ z) : 0 ≤ F.flR z :=
  le_flR_of_rep F hF (rep_zero F) hz

theorem flR_mono {a b : Rat} (h : a ≤ b) : F.flR a ≤ F.flR b := by
  have hp := (work_inF32 hF).one_le_p
  cases hh : F.isHalf
  · rw [Fmt.flR_of_not_half hh, Fmt.flR_of_not_half hh]; exact rndFin_mono F hp h
  · rw [Fmt.flR_of_half hh, Fmt.flR_of_half hh]
    exact rndFin_mono F hp (rndFin_mono f32 f32_one_le_p h)

end

/-! ### constants of the working formats -/

theorem rep_work (F : Fmt) (hF : WorkFmt F) (k : Int) (j : Nat) (hk : |k| < 2 ^ 8) :
    F.Rep ((k : Rat) * 2 ^ j) := by
  have h : 8 ≤ F.p ∧ F.emin - (F.p : Int) + 1 ≤ 0 := by
    rcases hF.cases with rfl | rfl | rfl <;> decide
  exact ⟨k, (j : Int), by rw [zpow_natCast], hk.trans_le (pow_le_pow_right₀ one_le_two h.1),
    h.2.trans (Int.natCast_nonneg j)⟩

theorem f16_maxFin : f16.maxFin = 65504 := by norm_num [Fmt.maxFin, f16, pow2_eq]

theorem work_maxFin_ge (F : Fmt) (hF : WorkFmt F) : 65504 ≤ F.maxFin := by
  rcases hF.cases with rfl | rfl | rfl <;> decide +kernel

theorem work_maxFin_nonneg (F : Fmt) (hF : WorkFmt F) : 0 ≤ F.maxFin :=
  le_trans (by norm_num) (work_maxFin_ge F hF)

theorem fl_zero (F : Fmt) (hF : WorkFmt F) : F.fl (.fin 0) = .fin 0 :=
  fl_of_rep F hF (rep_zero F) (abs_zero.trans_le (work_maxFin_nonneg F hF))

theorem u_eta_work (F : Fmt) (hF : WorkFmt F) : F.u ≤ 1 / 250 ∧ F.eta ≤ pow2 (-24) := by
  rcases hF.cases with rfl | rfl | rfl <;> decide +kernel

theorem u_eta_small (F : Fmt) (hF : F = f32 ∨ F = f16) : F.u ≤ 1 / 2000 ∧ F.eta ≤ 1 / 1000 := by
  rcases hF with rfl | rfl <;> decide +kernel

theorem work_pow2_emin_le (F : Fmt) (hF : WorkFmt F) : pow2 F.emin ≤ 1 := by
  rw [← pow2_zero]
  rcases hF.cases with rfl | rfl | rfl <;> exact pow2_le_pow2 (by decide)

theorem work_two_u_le (F : Fmt) (hF : WorkFmt F) : 2 * F.u ≤ 1 :=
  (mul_le_mul_of_nonneg_left (u_eta_work F hF).1 zero_le_two).trans (by norm_num)

/-- `51/100`, not `1/2`, of the smallest subnormal: a half format's `η` adds the float32 rounding's
`(1 + u₁)·η₁(f32)` to its own half subnormal -/
theorem eta_le_half_minsub (F : Fmt) (hF : WorkFmt F) :
    F.eta ≤ 51 / 100 * pow2 (F.emin - (F.p : Int) + 1) := by
  rcases hF.cases with rfl | rfl | rfl <;> decide +kernel

theorem eta_le_u_normal (F : Fmt) (hF : WorkFmt F) : F.eta ≤ F.u * pow2 F.emin := by
  rcases hF.cases with rfl | rfl | rfl <;> decide +kernel

theorem eta_le_milli (F : Fmt) (hF : WorkFmt F) : F.eta ≤ 1 / 1000 :=
  (u_eta_work F hF).2.trans (by decide +kernel)

/-! ### negation -/

theorem fl_neg (F : Fmt) (hF : WorkFmt F) (v : FV) : F.fl v.neg = (F.fl v).neg := by
  have h32 := work_maxFin_nonneg f32 (by decide)
  have hm := work_maxFin_nonneg F hF
  cases hh : F.isHalf
  · rw [Fmt.fl_of_not_half hh, Fmt.fl_of_not_half hh, rndV_neg F hm]
  · rw [Fmt.fl_of_half hh, Fmt.fl_of_half hh, rndV_neg f32 h32, rndV_neg F hm]

theorem mul_neg_right (F : Fmt) (hF : WorkFmt F) (s c : FV) : F.mul s c.neg = (F.mul s c).neg := by
  unfold Fmt.mul
  rw [mulX_neg_right, fl_neg F hF]

/-! ### one rounding of a non-negative value -/

theorem fl_cases_of_nonneg (F : Fmt) (hF : WorkFmt F) {z : Rat} (hz : 0 ≤ z) :
    F.fl (.fin z) = .fin (F.flR z) ∨ F.fl (.fin z) = .pinf :=
  (fl_cases F hF z).imp And.left fun h => h.elim And.left fun h =>
    absurd (h.2.trans_le (neg_nonpos.mpr (work_maxFin_nonneg F hF))) hz.not_gt

theorem fl_nonneg (F : Fmt) (hF : WorkFmt F) {z r : Rat} (hz : 0 ≤ z)
    (h : F.fl (.fin z) = .fin r) : 0 ≤ r := by
  obtain ⟨rfl, -⟩ := fl_fin F hF h
  exact flR_nonneg F hF hz

theorem fl_between (F : Fmt) (hF : WorkFmt F) {z r : Rat} (hz : 0 ≤ z)
    (h : F.fl (.fin z) = .fin r) : z * (1 - F.u) - F.eta ≤ r ∧ r ≤ z * (1 + F.u) + F.eta := by
  have e := abs_le.mp (fl_err F hF h)
  rw [abs_of_nonneg hz] at e
  constructor
  · linarith only [e.1]
  · linarith only [e.2]

theorem le_of_fl_loose (F : Fmt) (hF : WorkFmt F) {z r : Rat} (hz : 0 ≤ z)
    (h : F.fl (.fin z) = .fin r) : z ≤ (r + F.eta) * (1 + 2 * F.u) :=
  le_of_mul_one_sub_le F.u z _ F.u_nonneg (work_two_u_le F hF) hz
    (by linarith only [(fl_between F hF hz h).1])

theorem le_of_fl_normal (F : Fmt) (hF : WorkFmt F) {z r : Rat} (hz : 0 ≤ z) (hn : pow2 F.emin ≤ z)
    (h : F.fl (.fin z) = .fin r) : z ≤ r * (1 + 2 * F.u) := by
  have e := fl_err_normal F hF (by rwa [abs_of_nonneg hz]) h
  rw [abs_of_nonneg hz] at e
  exact le_of_mul_one_sub_le F.u z r F.u_nonneg (work_two_u_le F hF) hz
    (by linarith only [neg_le_abs (r - z), e])

/-! ### integers and their products with a representable value -/

theorem fl_small_int (F : Fmt) (hF : WorkFmt F) (k : Int) (hk : |k| < 2 ^ 8) :
    F.fl (.fin (k : Rat)) = .fin (k : Rat) := by
  have hr := rep_work F hF k 0 hk
  rw [pow_zero, mul_one] at hr
  refine fl_of_rep F hF hr (le_trans ?_ (work_maxFin_ge F hF))
  exact_mod_cast (hk.le.trans (by norm_num : (2 : Int) ^ 8 ≤ 65504))

/-- the product of a representable value and an integer is rounded with a purely relative error
(exactly, below the normal range) -/
theorem mul_int_err_signed (F : Fmt) (hF : WorkFmt F) {a : Rat} (hrep : F.Rep a) {n : Int} {y : Rat}
    (hy : F.fl (.fin (a * n)) = .fin y) : |y - a * n| ≤ F.u * |a * n| := by
  by_cases hnorm : pow2 F.emin ≤ |a * n|
  · exact fl_err_normal F hF hnorm hy
  · have hlt := not_le.mp hnorm
    have hr := rep_mul_int_small F (work_inF32 hF).one_le_p hrep n hlt
    have hm : |a * n| ≤ F.maxFin :=
      (hlt.le.trans (work_pow2_emin_le F hF)).trans
        ((by norm_num : (1 : Rat) ≤ 65504).trans (work_maxFin_ge F hF))
    rw [fl_of_rep F hF hr hm] at hy
    rw [← FV.fin.inj hy, sub_self, abs_zero]
    exact mul_nonneg F.u_nonneg (abs_nonneg _)

theorem mul_int_err (F : Fmt) (hF : WorkFmt F) {sq : Rat} (hrep : F.Rep sq) (hpos : 0 < sq)
    {n : Int} {yq : Rat} (hy : F.fl (.fin (sq * n)) = .fin yq) :
    |yq - sq * n| ≤ F.u * (sq * |(n : Rat)|) := by
  have := mul_int_err_signed F hF hrep hy
  rwa [abs_mul, abs_of_pos hpos] at this

/-! ### compositions of roundings -/

theorem fl_div_near (F : Fmt) (hF : WorkFmt F) {s y c : Rat} (hs : 0 < s)
    (hfin : |c| + F.u * |c| ≤ F.maxFin) (hy : |y - s * c| ≤ F.u * (s * |c|)) :
    ∃ d, F.fl (.fin (y / s)) = .fin d ∧ |d - c| ≤ F.u * (2 + F.u) * |c| + F.eta := by
  have hq : |y / s - c| ≤ F.u * |c| := abs_div_sub_le hs (by rwa [mul_left_comm])
  have habs : |y / s| ≤ |c| + F.u * |c| :=
    (sub_le_iff_le_add'.mp (abs_sub_abs_le_abs_sub _ _)).trans (add_le_add_right hq _)
  have hfl : F.fl (.fin (y / s)) = .fin (F.flR (y / s)) := fl_fin_of_le F hF _ (habs.trans hfin)
  exact ⟨_, hfl, (err_comp F.u_nonneg (hq.trans_eq (add_zero _).symm)
    (fl_err F hF hfl)).trans_eq (by ring)⟩

/-- an integer `n` that went through `y ≈ s·n` is read back from `y / s` by rounding: `fl (y / s)`
is within `(2u + u²)|n| + η < 1/2` of it -/
theorem rhe_fl_div_near (F : Fmt) (hF : WorkFmt F) {s y K : Rat} {n : Int} (hs : 0 < s)
    (hn : |(n : Rat)| ≤ K) (hK : K ≤ 65000) (hsmall : F.u * (2 * K + 1) + F.eta < 1 / 2)
    (hy : |y - s * n| ≤ F.u * (s * |(n : Rat)|)) :
    ∃ d, F.fl (.fin (y / s)) = .fin d ∧ rhe d = n := by
  have hu0 := F.u_nonneg
  have he0 := F.eta_nonneg
  have hun : F.u * |(n : Rat)| ≤ F.u * K := mul_le_mul_of_nonneg_left hn hu0
  have huu : F.u * (F.u * |(n : Rat)|) ≤ F.u * 1 :=
    mul_le_mul_of_nonneg_left (by linarith only [hun, hsmall, hu0, he0]) hu0
  obtain ⟨d, hd, hclose⟩ := fl_div_near F hF hs
    (by linarith only [hn, hK, hun, hsmall, hu0, he0, work_maxFin_ge F hF]) hy
  exact ⟨d, hd, rhe_eq_of (Or.inl ((abs_sub_comm _ _).trans_lt
    (by linarith only [hclose, hun, huu, hsmall])))⟩

theorem add_fl_fl_err (F : Fmt) (hF : WorkFmt F) {p q y : Rat} (hp : 0 ≤ p) (hq : 0 ≤ q)
    (h : F.add (F.fl (.fin p)) (F.fl (.fin q)) = .fin y) :
    |y - (p + q)| ≤ ((1 + F.u) ^ 2 - 1) * (p + q) + (3 + 2 * F.u) * F.eta := by
  obtain ⟨P, Q, hP, hQ⟩ := add_fin_inv F _ _ y h
  rw [hP, hQ, add_fin] at h
  have eP := fl_err F hF hP
  have eQ := fl_err F hF hQ
  rw [abs_of_nonneg hp] at eP
  rw [abs_of_nonneg hq] at eQ
  have e := err_comp_add F.u_nonneg eP eQ (fl_err F hF h)
  rw [abs_of_nonneg (add_nonneg hp hq)] at e
  exact e.trans_eq (by ring)

end Quanto
