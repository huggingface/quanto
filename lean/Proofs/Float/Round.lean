/-
Rounding into an arbitrary format: `Fmt.rndFin` (error bounds; the result is a representable value,
`Fmt.Rep`, and a nearest one; monotone; a value close to a representable one rounds to it) and
`Fmt.rnd` (overflow).
-/
import Proofs.Float.Basic

namespace Quanto

/-- v is a floating point number of format F (normal or subnormal, exponent unbounded above) -/
def Fmt.Rep (F : Fmt) (v : Rat) : Prop :=
  ∃ k j : Int, v = (k : Rat) * (2 : Rat) ^ j ∧ |k| < 2 ^ F.p ∧ F.emin - (F.p : Int) + 1 ≤ j

theorem rep_of_pow2 {F : Fmt} {k j : Int} (hk : |k| < 2 ^ F.p)
    (hj : F.emin - (F.p : Int) + 1 ≤ j) : F.Rep ((k : Rat) * pow2 j) :=
  ⟨k, j, by rw [pow2_eq], hk, hj⟩

theorem Fmt.Rep.exists_pow2 {F : Fmt} {v : Rat} (h : F.Rep v) :
    ∃ k j : Int, v = (k : Rat) * pow2 j ∧ |k| < 2 ^ F.p ∧ F.emin - (F.p : Int) + 1 ≤ j := by
  obtain ⟨k, j, rfl, hk, hj⟩ := h
  exact ⟨k, j, by rw [pow2_eq], hk, hj⟩

/-! ### `ulpOf`, `rndFin` -/

theorem ulpOf_eq (F : Fmt) (q : Rat) :
    F.ulpOf q = pow2 (max (ilog2 |q|) F.emin - (F.p : Int) + 1) := by
  unfold Fmt.ulpOf; rw [rabs_eq]

theorem ulpOf_pos (F : Fmt) (q : Rat) : 0 < F.ulpOf q := pow2_pos _

theorem ulpOf_neg (F : Fmt) (q : Rat) : F.ulpOf (-q) = F.ulpOf q := by
  rw [ulpOf_eq, ulpOf_eq, abs_neg]

theorem ulpOf_half (F : Fmt) (q : Rat) :
    F.ulpOf q / 2 = pow2 (max (ilog2 |q|) F.emin - (F.p : Int)) := by
  rw [ulpOf_eq, pow2_succ, mul_div_cancel_left₀ _ two_ne_zero]

theorem rndFin_eq (F : Fmt) {q : Rat} (hq : q ≠ 0) :
    F.rndFin q = (rhe (q / F.ulpOf q) : Rat) * F.ulpOf q := by
  unfold Fmt.rndFin; rw [if_neg hq]

theorem rndFin_zero (F : Fmt) : F.rndFin 0 = 0 := by
  unfold Fmt.rndFin; rw [if_pos rfl]

theorem rndFin_neg (F : Fmt) (q : Rat) : F.rndFin (-q) = -F.rndFin q := by
  by_cases hq : q = 0
  · rw [hq, neg_zero, rndFin_zero, neg_zero]
  · rw [rndFin_eq F hq, rndFin_eq F (neg_ne_zero.mpr hq), ulpOf_neg, neg_div, rhe_neg,
      Int.cast_neg, neg_mul]

theorem abs_mul_sub {u : Rat} (hu : 0 < u) (x q : Rat) : |x * u - q| = |x - q / u| * u := by
  rw [← abs_of_pos hu, ← abs_mul, abs_of_pos hu, sub_mul, div_mul_cancel₀ q hu.ne']

/-- an error bound on `y ≈ s·c`, read in units of `s` -/
theorem abs_div_sub_le {s y c e : Rat} (hs : 0 < s) (h : |y - s * c| ≤ s * e) : |y / s - c| ≤ e := by
  rw [abs_sub_comm, mul_comm s c, abs_mul_sub hs, abs_sub_comm, mul_comm s e] at h
  exact le_of_mul_le_mul_right h hs

theorem rndFin_near_mul (F : Fmt) {q : Rat} (hq : q ≠ 0) (n : Int) :
    |F.rndFin q - q| ≤ |(n : Rat) * F.ulpOf q - q| := by
  have hu := ulpOf_pos F q
  rw [rndFin_eq F hq, abs_mul_sub hu, abs_mul_sub hu]
  exact mul_le_mul_of_nonneg_right (rhe_nearest _ n) hu.le

theorem rndFin_err_ulp (F : Fmt) {q : Rat} (hq : q ≠ 0) :
    |F.rndFin q - q| ≤ F.ulpOf q / 2 := by
  have hu := ulpOf_pos F q
  rw [rndFin_eq F hq, abs_mul_sub hu]
  exact (mul_le_mul_of_nonneg_right (rhe_err _) hu.le).trans_eq (one_div_mul_eq_div 2 _)

theorem Fmt.u1_pos (F : Fmt) : 0 < F.u1 := pow2_pos _

theorem Fmt.eta1_pos (F : Fmt) : 0 < F.eta1 := pow2_pos _

theorem rndFin_err_normal (F : Fmt) (q : Rat) (h : pow2 F.emin ≤ |q|) :
    |F.rndFin q - q| ≤ F.u1 * |q| := by
  have hq : q ≠ 0 := abs_pos.mp ((pow2_pos _).trans_le h)
  have hle : F.emin ≤ ilog2 |q| := not_lt.mp fun hc =>
    (abs_lt_ilog2 hq).not_ge ((pow2_le_pow2 (Int.add_one_le_iff.mpr hc)).trans h)
  calc |F.rndFin q - q| ≤ F.ulpOf q / 2 := rndFin_err_ulp F hq
    _ = F.u1 * pow2 (ilog2 |q|) := by
      rw [ulpOf_half, max_eq_left hle, sub_eq_neg_add, pow2_add]; rfl
    _ ≤ F.u1 * |q| := mul_le_mul_of_nonneg_left (ilog2_abs_le hq) F.u1_pos.le

theorem rndFin_err_subnormal (F : Fmt) (q : Rat) (h : |q| < pow2 (F.emin + 1)) :
    |F.rndFin q - q| ≤ F.eta1 := by
  by_cases hq : q = 0
  · rw [hq, rndFin_zero, sub_self, abs_zero]; exact F.eta1_pos.le
  have hle : ilog2 |q| ≤ F.emin := not_lt.mp fun hc =>
    h.not_ge ((pow2_le_pow2 (Int.add_one_le_iff.mpr hc)).trans (ilog2_abs_le hq))
  calc |F.rndFin q - q| ≤ F.ulpOf q / 2 := rndFin_err_ulp F hq
    _ = F.eta1 := by rw [ulpOf_half, max_eq_right hle]; rfl

theorem rndFin_err (F : Fmt) (q : Rat) : |F.rndFin q - q| ≤ F.u1 * |q| + F.eta1 := by
  rcases le_or_gt (pow2 F.emin) |q| with h | h
  · exact (rndFin_err_normal F q h).trans (le_add_of_nonneg_right F.eta1_pos.le)
  · exact (rndFin_err_subnormal F q (h.trans (pow2_lt_pow2 (lt_add_one _)))).trans
      (le_add_of_nonneg_left (mul_nonneg F.u1_pos.le (abs_nonneg q)))

/-! ### `Rep`: the representable values; `rndFin q` is one of them and a nearest one -/

theorem rep_zero (F : Fmt) : F.Rep 0 :=
  ⟨0, F.emin - (F.p : Int) + 1, by rw [Int.cast_zero, zero_mul], by rw [abs_zero]; positivity,
    le_refl _⟩

theorem rep_neg {F : Fmt} {v : Rat} (hv : F.Rep v) : F.Rep (-v) := by
  obtain ⟨k, j, rfl, hk, hj⟩ := hv
  exact ⟨-k, j, by rw [Int.cast_neg, neg_mul], by rwa [abs_neg], hj⟩

theorem rep_mono {F G : Fmt} (hp : F.p ≤ G.p)
    (he : G.emin - (G.p : Int) + 1 ≤ F.emin - (F.p : Int) + 1) {v : Rat} (hv : F.Rep v) :
    G.Rep v := by
  obtain ⟨k, j, rfl, hk, hj⟩ := hv
  exact ⟨k, j, rfl, hk.trans_le (pow_le_pow_right₀ one_le_two hp), he.trans hj⟩

theorem rep_pow2 (F : Fmt) (hp : 1 ≤ F.p) (e : Int) (he : F.emin - (F.p : Int) + 1 ≤ e) :
    F.Rep (pow2 e) := by
  have := rep_of_pow2 (F := F) (k := 1)
    (by rw [abs_one]; exact one_lt_pow₀ one_lt_two (Nat.pos_iff_ne_zero.mp hp)) he
  rwa [Int.cast_one, one_mul] at this

theorem rep_one (F : Fmt) (hp : 1 ≤ F.p) (he : F.emin - (F.p : Int) + 1 ≤ 0) : F.Rep 1 := by
  have := rep_pow2 F hp 0 he
  rwa [pow2_zero] at this

/-- a product of a representable number and an integer that lies below the normal range is
representable (it is a multiple of the smallest subnormal with a small significand) -/
theorem rep_mul_int_small (F : Fmt) (hp : 1 ≤ F.p) {s : Rat} (hs : F.Rep s) (n : Int)
    (h : |s * n| < pow2 F.emin) : F.Rep (s * n) := by
  obtain ⟨k, j, rfl, -, hj⟩ := hs.exists_pow2
  obtain ⟨m, hm⟩ := mul_pow2_of_le hj (k * n)
  rw [mul_right_comm, ← Int.cast_mul, hm] at h ⊢
  refine rep_of_pow2 ?_ (le_refl _)
  -- `|m|·2^e < 2^emin = 2^(p-1)·2^e` for the exponent `e` of the smallest subnormal
  have hemin : pow2 F.emin = pow2 ((F.p - 1 : Nat) : Int) * pow2 (F.emin - (F.p : Int) + 1) := by
    rw [← pow2_add]; congr 1; omega
  rw [abs_mul, abs_of_pos (pow2_pos _), hemin] at h
  have h' := lt_of_mul_lt_mul_right h (pow2_pos _).le
  rw [pow2_natCast] at h'
  have : |m| < 2 ^ (F.p - 1) := by exact_mod_cast h'
  exact this.trans_le (pow_le_pow_right₀ one_le_two (Nat.sub_le _ _))

/-- the significand may reach `2^p`: that value has significand `2^(p-1)` one exponent up -/
theorem rep_of_abs_le {F : Fmt} (hp : 1 ≤ F.p) {k j : Int} (hk : |k| ≤ 2 ^ F.p)
    (hj : F.emin - (F.p : Int) + 1 ≤ j) : F.Rep ((k : Rat) * pow2 j) := by
  rcases hk.lt_or_eq with h | h
  · exact rep_of_pow2 h hj
  have h2 : (2 : Int) ^ F.p = 2 ^ (F.p - 1) * 2 := by rw [← pow_succ, Nat.sub_add_cancel hp]
  have h0 : (0 : Int) < 2 ^ (F.p - 1) := Int.pow_pos (by decide)
  have hr : F.Rep (((2 ^ F.p : Int) : Rat) * pow2 j) := by
    have := rep_of_pow2 (F := F) (k := 2 ^ (F.p - 1)) (j := j + 1)
      (by rw [abs_of_pos h0, h2]; exact lt_mul_of_one_lt_right h0 one_lt_two)
      (hj.trans (le_add_of_nonneg_right zero_le_one))
    rwa [pow2_succ, ← mul_assoc, ← Int.cast_ofNat (R := Rat), ← Int.cast_mul, ← h2] at this
  rcases (abs_eq (h2 ▸ mul_nonneg h0.le zero_le_two)).mp h with rfl | rfl
  · exact hr
  · rw [Int.cast_neg, neg_mul]; exact rep_neg hr

theorem rndFin_rep (F : Fmt) (hp : 1 ≤ F.p) (q : Rat) : F.Rep (F.rndFin q) := by
  by_cases hq : q = 0
  · rw [hq, rndFin_zero]; exact rep_zero F
  rw [rndFin_eq F hq, ulpOf_eq]
  generalize hc : max (ilog2 |q|) F.emin - (F.p : Int) + 1 = c
  refine rep_of_abs_le hp ?_ (by omega)
  -- `|q / ulp| < 2^p`, and `rhe` is monotone and fixes integers
  have hlt : |q / pow2 c| ≤ ((2 ^ F.p : Int) : Rat) := by
    rw [abs_div, abs_of_pos (pow2_pos c), div_le_iff₀ (pow2_pos c), Int.cast_pow, Int.cast_ofNat,
      ← pow2_natCast, ← pow2_add]
    exact (abs_lt_ilog2 hq).le.trans
      (pow2_le_pow2 (by omega))
  rw [abs_le]
  constructor
  · have := rhe_mono (neg_le_of_abs_le hlt)
    rwa [← Int.cast_neg, rhe_int] at this
  · have := rhe_mono (le_of_abs_le hlt)
    rwa [rhe_int] at this

theorem rndFin_nearest (F : Fmt) (hp : 1 ≤ F.p) (q v : Rat) (hv : F.Rep v) :
    |F.rndFin q - q| ≤ |v - q| := by
  by_cases hq : q = 0
  · rw [hq, rndFin_zero, sub_self, abs_zero]; exact abs_nonneg _
  obtain ⟨k, j, rfl, hk, hj⟩ := hv.exists_pow2
  have hnear := rndFin_near_mul F hq
  rw [ulpOf_eq] at hnear
  generalize hc : max (ilog2 |q|) F.emin - (F.p : Int) + 1 = c at hnear
  rcases le_or_gt c j with hcj | hcj
  · -- `v` is an integer multiple of the ulp
    obtain ⟨m, hm⟩ := mul_pow2_of_le hcj k
    rw [hm]
    exact hnear m
  -- otherwise `|v| < 2^e ≤ |q|` where `e = ilog2 |q| > emin`, and `±2^e` is a multiple of the ulp
  have hvlt : |(k : Rat) * pow2 j| < pow2 (ilog2 |q|) := by
    refine (abs_mul_pow2_lt hk (le_refl _)).trans_le ?_
    rw [← pow2_add]
    exact pow2_le_pow2 (by omega)
  obtain ⟨m, hm⟩ := mul_pow2_of_le (by omega : c ≤ ilog2 |q|) 1
  rw [Int.cast_one, one_mul] at hm
  obtain ⟨hv1, hv2⟩ := abs_lt.mp hvlt
  rcases lt_or_gt_of_ne hq with hneg | hpos
  · have hLle := le_neg.mp ((ilog2_abs_le hq).trans_eq (abs_of_neg hneg))
    have h := hnear (-m)
    rw [Int.cast_neg, neg_mul, ← hm, abs_of_nonneg (sub_nonneg.mpr hLle)] at h
    exact h.trans ((sub_le_sub_right hv1.le q).trans (le_abs_self _))
  · have hLle := (ilog2_abs_le hq).trans_eq (abs_of_pos hpos)
    have h := hnear m
    rw [← hm, abs_sub_comm (pow2 _) q, abs_of_nonneg (sub_nonneg.mpr hLle)] at h
    exact h.trans ((sub_le_sub_left hv2.le q).trans ((le_abs_self _).trans_eq (abs_sub_comm _ _)))

theorem rndFin_of_rep (F : Fmt) (hp : 1 ≤ F.p) (v : Rat) (hv : F.Rep v) : F.rndFin v = v := by
  have h := rndFin_nearest F hp v v hv
  rw [sub_self, abs_zero] at h
  exact sub_eq_zero.mp (abs_nonpos_iff.mp h)

theorem rndFin_le_of_rep (F : Fmt) (hp : 1 ≤ F.p) {q v : Rat} (hv : F.Rep v) (h : q ≤ v) :
    F.rndFin q ≤ v := by
  have h1 := rndFin_nearest F hp q v hv
  rw [abs_of_nonneg (sub_nonneg.mpr h)] at h1
  exact (sub_le_sub_iff_right q).mp ((le_abs_self _).trans h1)

theorem le_rndFin_of_rep (F : Fmt) (hp : 1 ≤ F.p) {q v : Rat} (hv : F.Rep v) (h : v ≤ q) :
    v ≤ F.rndFin q := by
  have h1 := rndFin_le_of_rep F hp (rep_neg hv) (neg_le_neg h)
  rwa [rndFin_neg, neg_le_neg_iff] at h1

theorem abs_rndFin_le_of_rep (F : Fmt) (hp : 1 ≤ F.p) {q v : Rat} (hv : F.Rep v)
    (h : |q| ≤ v) : |F.rndFin q| ≤ v :=
  abs_le.mpr ⟨le_rndFin_of_rep F hp (rep_neg hv) (abs_le.mp h).1,
    rndFin_le_of_rep F hp hv (abs_le.mp h).2⟩

theorem le_abs_rndFin_of_rep (F : Fmt) (hp : 1 ≤ F.p) {q v : Rat} (hv : F.Rep v)
    (h : v ≤ |q|) : v ≤ |F.rndFin q| := by
  rcases le_abs'.mp h with h1 | h1
  · exact le_abs'.mpr (Or.inl (rndFin_le_of_rep F hp (rep_neg hv) h1))
  · exact le_abs'.mpr (Or.inr (le_rndFin_of_rep F hp hv h1))

theorem lt_of_lt_rndFin (F : Fmt) (hp : 1 ≤ F.p) {q v : Rat} (hv : F.Rep v)
    (h : v < F.rndFin q) : v < q :=
  lt_of_not_ge fun hc => h.not_ge (rndFin_le_of_rep F hp hv hc)

theorem lt_of_rndFin_lt (F : Fmt) (hp : 1 ≤ F.p) {q v : Rat} (hv : F.Rep v)
    (h : F.rndFin q < v) : q < v :=
  lt_of_not_ge fun hc => h.not_ge (le_rndFin_of_rep F hp hv hc)

theorem rndFin_one (F : Fmt) (hp : 1 ≤ F.p) (he : F.emin - (F.p : Int) + 1 ≤ 0) : F.rndFin 1 = 1 :=
  rndFin_of_rep F hp 1 (rep_one F hp he)

theorem rndFin_unit (F : Fmt) (hp : 1 ≤ F.p) (he : F.emin - (F.p : Int) + 1 ≤ 0) {q : Rat}
    (h0 : 0 ≤ q) (hq : q ≤ 1) : 0 ≤ F.rndFin q ∧ F.rndFin q ≤ 1 :=
  ⟨le_rndFin_of_rep F hp (rep_zero F) h0, rndFin_le_of_rep F hp (rep_one F hp he) hq⟩

theorem rndFin_mono (F : Fmt) (hp : 1 ≤ F.p) {a b : Rat} (h : a ≤ b) :
    F.rndFin a ≤ F.rndFin b := by
  have ra := rndFin_rep F hp a
  have rb := rndFin_rep F hp b
  rcases le_or_gt a (F.rndFin b) with h1 | h1
  · exact rndFin_le_of_rep F hp rb h1
  rcases le_or_gt (F.rndFin a) b with h2 | h2
  · exact le_rndFin_of_rep F hp ra h2
  -- rndFin b < a ≤ b < rndFin a: each is nearest to its argument, forcing a = b
  have n1 := rndFin_nearest F hp a _ rb
  have n2 := rndFin_nearest F hp b _ ra
  rw [abs_of_nonneg (sub_nonneg.mpr (h.trans h2.le)), abs_of_nonpos (sub_nonpos.mpr h1.le)] at n1
  rw [abs_of_nonpos (sub_nonpos.mpr (h1.le.trans h)), abs_of_nonneg (sub_nonneg.mpr h2.le)] at n2
  rw [le_antisymm h (by linarith : b ≤ a)]

/-! ### distinct representable values are apart: a value close enough to one rounds to it -/

theorem pow2_le_abs_sub_of_ne {k1 k2 j1 j2 : Int} (hj : j1 ≤ j2)
    (hne : (k1 : Rat) * pow2 j1 ≠ (k2 : Rat) * pow2 j2) :
    pow2 j1 ≤ |(k1 : Rat) * pow2 j1 - (k2 : Rat) * pow2 j2| := by
  obtain ⟨m, hm⟩ := mul_pow2_of_le hj k2
  have h0 : k1 - m ≠ 0 := fun h0 => hne (by rw [hm, sub_eq_zero.mp h0])
  rw [hm, ← sub_mul, abs_mul, abs_of_pos (pow2_pos j1), ← Int.cast_sub]
  exact le_mul_of_one_le_left (pow2_pos j1).le (one_le_abs_intCast h0)

theorem rep_gap (F : Fmt) {a b : Rat} (ha : F.Rep a) (hb : F.Rep b) (hne : a ≠ b) :
    |a| < (pow2 (F.p : Int) + 1) * |a - b| := by
  obtain ⟨k1, j1, rfl, hk1, -⟩ := ha.exists_pow2
  obtain ⟨k2, j2, rfl, hk2, -⟩ := hb.exists_pow2
  rw [add_mul, one_mul]
  -- the one with the smaller exponent is below `2^p` times the gap
  rcases le_or_gt j1 j2 with hj | hj
  · exact (abs_mul_pow2_lt hk1 (pow2_le_abs_sub_of_ne hj hne)).trans_le
      (le_add_of_nonneg_right (abs_nonneg _))
  · have hg := pow2_le_abs_sub_of_ne hj.le hne.symm
    rw [abs_sub_comm] at hg
    have tri := abs_sub_abs_le_abs_sub ((k1 : Rat) * pow2 j1) ((k2 : Rat) * pow2 j2)
    rw [sub_le_iff_le_add'] at tri
    exact tri.trans_lt (add_lt_add_left (abs_mul_pow2_lt hk2 hg) _)

theorem rep_abs_ge (F : Fmt) {c : Rat} (hc : F.Rep c) (h0 : c ≠ 0) :
    pow2 (F.emin - (F.p : Int) + 1) ≤ |c| := by
  obtain ⟨k, j, rfl, -, hj⟩ := hc.exists_pow2
  have hk : k ≠ 0 := by rintro rfl; exact h0 (by rw [Int.cast_zero, zero_mul])
  rw [abs_mul, abs_of_pos (pow2_pos j)]
  have h1 := le_mul_of_one_le_left (pow2_pos j).le (one_le_abs_intCast hk)
  exact (pow2_le_pow2 hj).trans h1

theorem rndFin_eq_of_close (G : Fmt) (hp : 1 ≤ G.p) {c t : Rat} (hc : G.Rep c)
    (h : 2 * (pow2 (G.p : Int) + 1) * |t - c| ≤ |c|) : G.rndFin t = c := by
  by_contra hne
  -- otherwise `rndFin t` is a different representable value within `2 |t - c|` of `c`
  have hg := rep_gap G hc (rndFin_rep G hp t) (Ne.symm hne)
  have hn := rndFin_nearest G hp t c hc
  rw [abs_sub_comm c t] at hn
  have h2 : |c - G.rndFin t| ≤ 2 * |t - c| := by
    have := abs_sub_le c t (G.rndFin t)
    rw [abs_sub_comm c t, abs_sub_comm t (G.rndFin t)] at this
    rw [two_mul]
    exact this.trans (add_le_add_right hn _)
  have hP : 0 ≤ pow2 (G.p : Int) + 1 := add_nonneg (pow2_pos _).le zero_le_one
  have h3 := hg.trans_le (mul_le_mul_of_nonneg_left h2 hP)
  rw [← mul_assoc, mul_comm _ (2 : Rat)] at h3
  exact absurd (h3.trans_le h) (lt_irrefl _)

/-! ### `rnd`: overflow handling -/

theorem rnd_spec (F : Fmt) (q : Rat) :
    match F.rnd q with
    | .fin r => r = F.rndFin q ∧ |r| ≤ F.maxFin
    | .pinf => F.maxFin < F.rndFin q
    | .ninf => F.rndFin q < -F.maxFin
    | .nan => F.ieee = false := by
  unfold Fmt.rnd
  by_cases h1 : F.rndFin q > F.maxFin
  · rw [if_pos h1]
    cases F.ieee
    · rfl
    · exact h1
  by_cases h2 : F.rndFin q < -F.maxFin
  · rw [if_neg h1, if_pos h2]
    cases F.ieee
    · rfl
    · exact h2
  · rw [if_neg h1, if_neg h2]
    exact ⟨rfl, abs_le.mpr ⟨not_lt.mp h2, not_lt.mp h1⟩⟩

theorem rnd_of_abs_rndFin_le (F : Fmt) {q : Rat} (h : |F.rndFin q| ≤ F.maxFin) :
    F.rnd q = .fin (F.rndFin q) := by
  unfold Fmt.rnd
  rw [if_neg (abs_le.mp h).2.not_gt, if_neg (abs_le.mp h).1.not_gt]

theorem rnd_fin (F : Fmt) (q r : Rat) (h : F.rnd q = .fin r) :
    r = F.rndFin q ∧ |r| ≤ F.maxFin := by
  have := rnd_spec F q
  rwa [h] at this

theorem rnd_not_nan_of_ieee (F : Fmt) (hi : F.ieee = true) (q : Rat) : F.rnd q ≠ .nan := by
  intro h
  have := rnd_spec F q
  rw [h, hi] at this
  cases this

theorem rnd_of_abs_le_maxFin (F : Fmt) (hp : 1 ≤ F.p) (hm : F.Rep F.maxFin) (q : Rat)
    (h : |q| ≤ F.maxFin) : F.rnd q = .fin (F.rndFin q) :=
  rnd_of_abs_rndFin_le F (abs_rndFin_le_of_rep F hp hm h)

theorem lt_of_rnd_pinf (F : Fmt) (hp : 1 ≤ F.p) (hm : F.Rep F.maxFin) (q : Rat)
    (h : F.rnd q = .pinf) : F.maxFin < q := by
  have := rnd_spec F q
  rw [h] at this
  exact lt_of_lt_rndFin F hp hm this

theorem lt_of_rnd_ninf (F : Fmt) (hp : 1 ≤ F.p) (hm : F.Rep F.maxFin) (q : Rat)
    (h : F.rnd q = .ninf) : q < -F.maxFin := by
  have := rnd_spec F q
  rw [h] at this
  exact lt_of_rndFin_lt F hp (rep_neg hm) this

theorem rnd_neg (F : Fmt) (hm : 0 ≤ F.maxFin) (q : Rat) : F.rnd (-q) = (F.rnd q).neg := by
  unfold Fmt.rnd
  simp only [rndFin_neg]
  by_cases h1 : F.rndFin q > F.maxFin
  · rw [if_neg (not_lt.2 ((neg_lt_neg h1).le.trans ((neg_nonpos.2 hm).trans hm))),
      if_pos (neg_lt_neg h1), if_pos h1]
    cases F.ieee <;> rfl
  · by_cases h2 : F.rndFin q < -F.maxFin
    · rw [if_pos (lt_neg.1 h2), if_neg h1, if_pos h2]
      cases F.ieee <;> rfl
    · rw [if_neg fun h => h2 (lt_neg.1 h), if_neg fun h => h1 (neg_lt_neg_iff.1 h), if_neg h1,
        if_neg h2]
      rfl

/-! ### `maxFin` is representable -/

theorem maxFin_eq (F : Fmt) :
    F.maxFin = (((2 : Int) ^ F.p - (if F.ieee then 1 else 2) : Int) : Rat) *
      pow2 (F.emax - (F.p : Int) + 1) := by
  have h2 : pow2 F.p * pow2 (1 - F.p) = 2 := by rw [← pow2_add, add_sub_cancel, pow2_one]
  rw [show F.emax - (F.p : Int) + 1 = (1 - F.p) + F.emax by ring, pow2_add]
  unfold Fmt.maxFin
  split_ifs <;> push_cast <;> rw [← pow2_natCast, ← h2] <;> ring

theorem maxFin_rep_of {F : Fmt} (hp : 1 ≤ F.p) (he : F.emin ≤ F.emax) : F.Rep F.maxFin := by
  have h2 : (2 : Int) ≤ 2 ^ F.p := le_self_pow₀ one_le_two (Nat.pos_iff_ne_zero.mp hp)
  rw [maxFin_eq]
  refine rep_of_pow2 ?_ (by omega)
  rw [abs_of_nonneg (by split_ifs <;> omega)]
  split_ifs <;> omega

/-! ### the concrete formats -/

theorem fmt_params (F : Fmt) (hF : F ∈ [f32, f16, bf16, e4m3, e5m2]) :
    1 ≤ F.p ∧ F.emin ≤ F.emax := by
  simp only [List.mem_cons, List.not_mem_nil, or_false] at hF
  rcases hF with rfl | rfl | rfl | rfl | rfl <;> decide

theorem one_le_p (F : Fmt) (hF : F ∈ [f32, f16, bf16, e4m3, e5m2]) : 1 ≤ F.p :=
  (fmt_params F hF).1

theorem maxFin_rep (F : Fmt) (hF : F ∈ [f32, f16, bf16, e4m3, e5m2]) : F.Rep F.maxFin :=
  maxFin_rep_of (fmt_params F hF).1 (fmt_params F hF).2

theorem rnd_pinf (F : Fmt) (hF : F ∈ [f32, f16, bf16, e4m3, e5m2]) (q : Rat)
    (h : F.rnd q = .pinf) : F.maxFin < q :=
  lt_of_rnd_pinf F (one_le_p F hF) (maxFin_rep F hF) q h

theorem rnd_ninf (F : Fmt) (hF : F ∈ [f32, f16, bf16, e4m3, e5m2]) (q : Rat)
    (h : F.rnd q = .ninf) : q < -F.maxFin :=
  lt_of_rnd_ninf F (one_le_p F hF) (maxFin_rep F hF) q h

end Quanto
