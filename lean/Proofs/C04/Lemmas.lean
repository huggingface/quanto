/-
C04: the byte `pack_weights` writes at row `r` of a column is the `wordSum` of the fields `fld … r i`;
the Python kernel reads field `j / row_dim` of byte `j % row_dim` for row `j`, and the table of the
C++ kernel reads the same fields of a byte.  The tensor-level statements follow position by position.
-/
import Quanto.Spec.C04
import Proofs.C04.Fields
import Proofs.Tensor.Basic
namespace Quanto

/-! ### `vpi`, `rowDim`, `packIt`

The round trip needs nothing of the width but `0 < vpi bits` (a byte holds at least one value:
`1 ≤ bits ≤ 8`); only the density formula and the C++ table are about the two widths in use. -/

theorem vpi_pos (bits : Nat) (hb : bits = 2 ∨ bits = 4) : 0 < vpi bits := by
  rcases hb with rfl | rfl <;> decide

theorem ceilDiv_mul (R v b : Nat) (hv : 0 < v) (hb : 0 < b) :
    ceilDiv (R * b) (v * b) = (R + v - 1) / v := by
  obtain ⟨w, rfl⟩ := Nat.exists_eq_add_one_of_ne_zero (Nat.ne_of_gt hv)
  have e : R * b + (w + 1) * b - 1 = b * (R + w) + (b - 1) := by
    rw [Nat.add_mul w, Nat.one_mul, ← Nat.add_assoc, Nat.add_sub_assoc hb, Nat.mul_add,
      Nat.mul_comm b R, Nat.mul_comm b w]
  rw [ceilDiv, e, Nat.mul_comm (w + 1) b, ← Nat.div_div_eq_div_mul, Nat.mul_add_div hb,
    Nat.div_eq_of_lt (Nat.sub_lt hb Nat.one_pos)]
  rfl

theorem rowDim_eq_ceilDiv (bits R : Nat) (h : vpi bits * bits = 8) :
    rowDim bits R = ceilDiv (R * bits) 8 := by
  have hv : 0 < vpi bits := Nat.pos_of_mul_pos_right (h ▸ (by decide : 0 < 8))
  have hb : 0 < bits := Nat.pos_of_mul_pos_left (h ▸ (by decide : 0 < 8))
  rw [← h, ceilDiv_mul R _ _ hv hb, rowDim]

theorem le_vpi_mul_rowDim (bits R : Nat) (hv : 0 < vpi bits) : R ≤ vpi bits * rowDim bits R := by
  unfold rowDim
  have h1 := Nat.div_add_mod (R + vpi bits - 1) (vpi bits)
  have h2 := Nat.mod_lt (R + vpi bits - 1) hv
  omega

theorem rowDim_pos (bits R : Nat) (hv : 0 < vpi bits) (hR : 1 ≤ R) : 0 < rowDim bits R := by
  have h := le_vpi_mul_rowDim bits R hv
  refine Nat.pos_of_ne_zero fun h0 => ?_
  rw [h0] at h; omega

theorem packIt_mul_rowDim_ge (bits R : Nat) (hv : 0 < vpi bits) :
    R ≤ packIt bits R * rowDim bits R := by
  unfold packIt
  rcases Nat.le_total (vpi bits) (R / rowDim bits R + 1) with h | h
  · rw [Nat.min_eq_left h]; exact le_vpi_mul_rowDim bits R hv
  · rw [Nat.min_eq_right h]
    rcases Nat.eq_zero_or_pos (rowDim bits R) with h0 | hpos
    · have := le_vpi_mul_rowDim bits R hv
      rw [h0] at this ⊢; omega
    · exact Nat.le_of_lt (Nat.lt_mul_of_div_lt (Nat.lt_succ_self _) hpos)

/-! ### the `|=` loop -/

/-- field `i` of the packed byte at row `r` -/
def fld (bits R : Nat) (col : Nat → Nat) (r i : Nat) : Nat :=
  if i * rowDim bits R + r < R then col (i * rowDim bits R + r) else 0

theorem fld_lt (bits R : Nat) (col : Nat → Nat) (h : ∀ j, j < R → col j < 2 ^ bits) (r i : Nat) :
    fld bits R col r i < 2 ^ bits := by
  unfold fld; split
  next hlt => exact h _ hlt
  next => exact Nat.two_pow_pos bits

theorem fld_at (bits R : Nat) (col : Nat → Nat) (j : Nat) (hj : j < R) :
    fld bits R col (j % rowDim bits R) (j / rowDim bits R) = col j := by
  unfold fld
  rw [Nat.div_add_mod' j (rowDim bits R), if_pos hj]

theorem packTerm_eq_fld (bits R : Nat) (col : Nat → Nat) (r i : Nat) (hr : r < rowDim bits R) :
    packTerm bits R col r i = (fld bits R col r i <<< (bits * i)) % 256 := by
  unfold packTerm fld
  simp only [Nat.lt_min, Nat.add_lt_add_iff_left, hr, true_and]
  split
  · rfl
  · rw [Nat.zero_shiftLeft]

theorem packTerm_lt (bits R : Nat) (col : Nat → Nat) (r i : Nat) : packTerm bits R col r i < 256 := by
  unfold packTerm
  simp only []
  split
  · exact Nat.mod_lt _ (by decide)
  · decide

theorem foldl_or_lt (f : Nat → Nat) (hf : ∀ i, f i < 256) (l : List Nat) (acc : Nat) (ha : acc < 256) :
    l.foldl (fun acc i => acc ||| f i) acc < 256 := by
  induction l generalizing acc with
  | nil => exact ha
  | cons x xs ih => exact ih _ (Nat.or_lt_two_pow (n := 8) ha (hf x))

theorem packByte_lt (bits R : Nat) (col : Nat → Nat) (r : Nat) : packByte bits R col r < 256 :=
  foldl_or_lt _ (packTerm_lt bits R col r) _ 0 (by decide)

theorem packByte_eq_wordSum (bits R : Nat) (col : Nat → Nat) (h : ∀ j, j < R → col j < 2 ^ bits)
    (r : Nat) (hr : r < rowDim bits R) :
    packByte bits R col r = wordSum bits (fld bits R col r) (packIt bits R) := by
  unfold packByte
  simp only [packTerm_eq_fld bits R col r _ hr]
  exact foldl_or_eq_wordSum bits 8 _ _
    (Nat.le_trans (Nat.mul_le_mul_left bits (Nat.min_le_left _ _)) (Nat.mul_div_le 8 bits))
    fun i _ => fld_lt bits R col h r i

/-! ### one column round trip -/

/-- the Python kernel masks everything up to the top of field `i`, then shifts -/
theorem pyMask_shiftRight (bits i x : Nat) :
    (x &&& pyMask bits i) >>> (bits * i) = x / 2 ^ (bits * i) % 2 ^ bits := by
  rw [pyMask, Nat.mul_add_one, Nat.and_two_pow_sub_one_eq_mod, Nat.shiftRight_eq_div_pow,
    Nat.pow_add, Nat.mod_mul_right_div_self]

theorem roundtrip_column (bits : Nat) (hv : 0 < vpi bits) (R : Nat) (col : Nat → Nat)
    (h : ∀ j, j < R → col j < 2 ^ bits) (j : Nat) (hj : j < R) :
    (packByte bits R col (j % rowDim bits R) &&& pyMask bits (j / rowDim bits R))
      >>> (bits * (j / rowDim bits R)) = col j := by
  have hpos : 0 < rowDim bits R := rowDim_pos bits R hv (by omega)
  -- row `j` lies in one of the fields the loop writes: `it * row_dim ≥ R`
  have hi : j / rowDim bits R < packIt bits R :=
    (Nat.div_lt_iff_lt_mul hpos).2 (Nat.lt_of_lt_of_le hj (packIt_mul_rowDim_ge bits R hv))
  rw [pyMask_shiftRight, packByte_eq_wordSum bits R col h _ (Nat.mod_lt _ hpos),
    wordSum_field _ _ _ _ hi fun i _ => fld_lt bits R col h _ i]
  exact fld_at bits R col j hj

/-! ### kernels -/

/-- entry `i` of the table read off the compiled kernel shifts by `bits * i`, and its mask has, from
that bit up to the top of the byte, exactly the bits of field `i` (unpack.cpp writes `0x0F`, `0xF0`, …,
i.e. `(2^bits - 1) <<< (bits * i)`; a mask with further bits below the field, or from bit 8 up,
unpacks a byte alike) -/
theorem cpp_table (bits : Nat) (hb : bits = 2 ∨ bits = 4) :
    (Generated.cppUnpackTable bits).length = vpi bits ∧ ∀ i, i < vpi bits →
      ((Generated.cppUnpackTable bits).getD i (0, 0)).2 = bits * i ∧
      (((Generated.cppUnpackTable bits).getD i (0, 0)).1 >>> (bits * i)) % 2 ^ (8 - bits * i)
        = 2 ^ bits - 1 := by
  rcases hb with rfl | rfl <;> decide

theorem cpp_byte (bits : Nat) (hb : bits = 2 ∨ bits = 4) (b i : Nat) (hbyte : b < 256)
    (hi : i < vpi bits) :
    (b &&& ((Generated.cppUnpackTable bits).getD i (0, 0)).1) >>> ((Generated.cppUnpackTable bits).getD i (0, 0)).2
      = (b &&& pyMask bits i) >>> (bits * i) := by
  obtain ⟨hs, hm⟩ := (cpp_table bits hb).2 i hi
  rw [hs, and_shiftRight_of_mask (W := 8) _ _ bits hbyte hm, pyMask_shiftRight]

theorem unpackCpp_eq_unpackPy (bits : Nat) (hb : bits = 2 ∨ bits = 4) (p : T Nat)
    (hp : ∀ i, p.get i < 256) : unpackCpp bits p = unpackPy bits p := by
  unfold unpackCpp unpackPy
  simp only [(cpp_table bits hb).1]
  refine T.ofFn_congr _ _ _ fun n hn => ?_
  rw [prod, Nat.mul_comm, Nat.mul_comm (vpi bits)] at hn
  exact cpp_byte bits hb _ _ (hp _) (Nat.div_lt_of_lt_mul (Nat.div_lt_of_lt_mul hn))

/-- only the route "extension enabled and built" runs the C++ kernel -/
theorem quantoUnpack_eq_unpackPy (bits : Nat) (hb : bits = 2 ∨ bits = 4) (e : Bool) (x : ExtOutcome)
    (p : T Nat) (hp : ∀ i, p.get i < 256) : quantoUnpack e x bits p = unpackPy bits p := by
  cases e
  · rfl
  · cases x
    · exact unpackCpp_eq_unpackPy bits hb p hp
    · rfl

/-! ### whole tensors -/

theorem packWeights_shape (bits : Nat) (t : T Nat) :
    (packWeights bits t).shape = rowDim bits (t.shape.headD 0) :: t.shape.tail := rfl

theorem packWeights_get_lt (bits : Nat) (t : T Nat) : ∀ i, (packWeights bits t).get i < 256 := by
  unfold packWeights
  exact T.get_ofFn_lt _ _ 256 (by decide) fun _ _ => packByte_lt _ _ _ _

theorem unpackPy_packWeights_get (bits : Nat) (hv : 0 < vpi bits) (t : T Nat)
    (hc : ∀ i, t.get i < 2 ^ bits) (n : Nat) (hn : n < t.shape.headD 0 * prod t.shape.tail) :
    (unpackPy bits (packWeights bits t)).get n = t.get n := by
  have hK : 0 < prod t.shape.tail := Nat.pos_of_mul_pos_left (Nat.zero_lt_of_lt hn)
  have hrow : n / prod t.shape.tail < t.shape.headD 0 := (Nat.div_lt_iff_lt_mul hK).2 hn
  have hrd : 0 < rowDim bits (t.shape.headD 0) := rowDim_pos bits _ hv (Nat.zero_lt_of_lt hrow)
  have hmod : n % prod t.shape.tail < prod t.shape.tail := Nat.mod_lt _ hK
  unfold unpackPy
  simp only [packWeights_shape, List.headD_cons, List.tail_cons]
  rw [T.get_ofFn _ _ _
    (Nat.lt_of_lt_of_le hn (Nat.mul_le_mul_right _ (le_vpi_mul_rowDim bits _ hv)))]
  unfold packWeights
  rw [T.get_ofFn _ _ _ (idx_lt _ _ _ _ (Nat.mod_lt _ hrd) hmod), idx_div _ _ _ hmod,
    idx_mod _ _ _ hmod, roundtrip_column bits hv (t.shape.headD 0) _ (fun j _ => hc _) _ hrow,
    Nat.div_add_mod']

theorem narrow_unpackPy_packWeights (bits : Nat) (hv : 0 < vpi bits) (t : T Nat)
    (hne : t.shape ≠ []) (hwf : t.data.size = prod t.shape) (hc : ∀ i, t.get i < 2 ^ bits) :
    narrowRows (t.shape.headD 0) (unpackPy bits (packWeights bits t)) = t := by
  have hs : t.shape.headD 0 :: t.shape.tail = t.shape := by
    cases h : t.shape with
    | nil => exact absurd h hne
    | cons a as => rfl
  exact T.ofFn_eq t _ _ hs hwf (unpackPy_packWeights_get bits hv t hc)

end Quanto
