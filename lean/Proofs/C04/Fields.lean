/-
Bit fields of a natural number: a word that holds the values `v 0, v 1, …` in consecutive fields of
`w` bits is `Σ v i · 2^(w·i)`; field `m` is read back by shift and mask.  Every packer of the
development (`pack_weights`, the AWQ `pack` and `pack_v2`) and every unpacking kernel is an instance.
-/
namespace Quanto

/-- `Σ_{i<n} v i · 2^(w·i)` -/
def wordSum (w : Nat) (v : Nat → Nat) : Nat → Nat
  | 0 => 0
  | n + 1 => wordSum w v n + v n * 2 ^ (w * n)

theorem wordSum_lt (w : Nat) (v : Nat → Nat) :
    ∀ n, (∀ i, i < n → v i < 2 ^ w) → wordSum w v n < 2 ^ (w * n)
  | 0, _ => Nat.two_pow_pos _
  | n + 1, h => by
    have ih := wordSum_lt w v n fun i hi => h i (Nat.lt_succ_of_lt hi)
    have hv : v n + 1 ≤ 2 ^ w := h n (Nat.lt_succ_self n)
    calc wordSum w v n + v n * 2 ^ (w * n)
        < 2 ^ (w * n) + v n * 2 ^ (w * n) := Nat.add_lt_add_right ih _
      _ = (v n + 1) * 2 ^ (w * n) := by rw [Nat.add_mul, Nat.one_mul, Nat.add_comm]
      _ ≤ 2 ^ w * 2 ^ (w * n) := Nat.mul_le_mul_right _ hv
      _ = 2 ^ (w * (n + 1)) := by rw [← Nat.pow_add, Nat.mul_succ, Nat.add_comm]

theorem wordSum_field (w : Nat) (v : Nat → Nat) :
    ∀ n m, m < n → (∀ i, i < n → v i < 2 ^ w) → wordSum w v n / 2 ^ (w * m) % 2 ^ w = v m
  | 0, m, hm, _ => absurd hm (Nat.not_lt_zero m)
  | n + 1, m, hm, h => by
    have hlt := wordSum_lt w v n fun i hi => h i (Nat.lt_succ_of_lt hi)
    rcases Nat.lt_or_ge m n with hmn | hmn
    · -- the new top field is a multiple of `2^(w·(m+1))`: it does not reach field `m`
      have ih := wordSum_field w v n m hmn fun i hi => h i (Nat.lt_succ_of_lt hi)
      obtain ⟨d, rfl⟩ := Nat.exists_eq_add_of_lt hmn
      have e : v (m + d + 1) * 2 ^ (w * (m + d + 1)) =
          2 ^ (w * m) * (2 ^ w * (v (m + d + 1) * 2 ^ (w * d))) := by
        rw [Nat.mul_add, Nat.mul_add, Nat.pow_add, Nat.pow_add, Nat.mul_one]; ac_rfl
      rw [wordSum, e, Nat.add_mul_div_left _ _ (Nat.two_pow_pos _), Nat.add_mul_mod_self_left, ih]
    · obtain rfl : m = n := Nat.le_antisymm (Nat.le_of_lt_succ hm) hmn
      rw [wordSum, Nat.mul_comm, Nat.add_mul_div_left _ _ (Nat.two_pow_pos _),
        Nat.div_eq_of_lt hlt, Nat.zero_add]
      exact Nat.mod_eq_of_lt (h m hm)

theorem wordSum_or_succ (w : Nat) (v : Nat → Nat) (n : Nat) (h : ∀ i, i < n → v i < 2 ^ w) :
    wordSum w v n ||| (v n <<< (w * n)) = wordSum w v (n + 1) := by
  rw [Nat.or_comm, ← Nat.shiftLeft_add_eq_or_of_lt (wordSum_lt w v n h), Nat.shiftLeft_eq,
    Nat.add_comm, wordSum]

/-- an `|=` loop over `n` fields of `w` bits in a register of `W ≥ w·n` bits computes the sum:
nothing is truncated and no two fields overlap -/
theorem foldl_or_eq_wordSum (w W : Nat) (v : Nat → Nat) :
    ∀ n, w * n ≤ W → (∀ i, i < n → v i < 2 ^ w) →
      (List.range n).foldl (fun acc i => acc ||| ((v i <<< (w * i)) % 2 ^ W)) 0 = wordSum w v n
  | 0, _, _ => rfl
  | n + 1, hn, h => by
    have h' : ∀ i, i < n → v i < 2 ^ w := fun i hi => h i (Nat.lt_succ_of_lt hi)
    have hb : v n * 2 ^ (w * n) < 2 ^ W :=
      Nat.lt_of_le_of_lt (Nat.le_add_left _ _)
        (Nat.lt_of_lt_of_le (wordSum_lt w v (n + 1) h) (Nat.pow_le_pow_right (by decide) hn))
    rw [List.range_succ, List.foldl_append,
      foldl_or_eq_wordSum w W v n (Nat.le_trans (Nat.mul_le_mul_left w (Nat.le_succ n)) hn) h',
      List.foldl_cons, List.foldl_nil, Nat.shiftLeft_eq, Nat.mod_eq_of_lt hb, ← Nat.shiftLeft_eq,
      wordSum_or_succ w v n h']

/-- mask, then shift (the C++ kernel), on a value below `2^W`: the mask selects the `w`-bit field at bit
`s` as soon as its bits `s … W-1` are those of the field.  What it has below bit `s` is shifted out,
what it has from bit `W` on meets nothing. -/
theorem and_shiftRight_of_mask {x W : Nat} (m s w : Nat) (hx : x < 2 ^ W)
    (hm : (m >>> s) % 2 ^ (W - s) = 2 ^ w - 1) : (x &&& m) >>> s = x / 2 ^ s % 2 ^ w := by
  have h : x >>> s < 2 ^ (W - s) := by
    rw [Nat.shiftRight_eq_div_pow]
    refine Nat.div_lt_of_lt_mul (Nat.lt_of_lt_of_le hx ?_)
    rw [← Nat.pow_add]
    exact Nat.pow_le_pow_right (by decide) (Nat.sub_le_iff_le_add'.mp (Nat.le_refl _))
  rw [Nat.shiftRight_and_distrib, ← Nat.mod_eq_of_lt (Nat.lt_of_le_of_lt Nat.and_le_left h),
    Nat.and_mod_two_pow, hm, Nat.mod_eq_of_lt h, Nat.and_two_pow_sub_one_eq_mod,
    Nat.shiftRight_eq_div_pow]

end Quanto
