/-
Each validation ladder as one `if` (`guard_or`), the automatic group as a `List.find?`, and the list facts behind the
keepdim scale shape.
-/
import Quanto.Spec.C06
namespace Quanto.C14

theorem eq_replicate_of_squeezedRank_eq_zero (l : List Nat) (h : squeezedRank l = 0) :
    l = List.replicate l.length 1 :=
  List.eq_replicate_iff.mpr ⟨rfl, fun b hb => by
    simpa using List.filter_eq_nil_iff.mp (List.eq_nil_of_length_eq_zero h) b hb⟩

theorem squeezedRank_cons (x : Nat) (xs : List Nat) :
    squeezedRank (x :: xs) = (if x = 1 then 0 else 1) + squeezedRank xs := by
  unfold squeezedRank
  by_cases hx : x = 1 <;> simp [hx] <;> omega

theorem squeezedRank_reverse (l : List Nat) : squeezedRank l.reverse = squeezedRank l := by
  unfold squeezedRank
  rw [List.filter_reverse, List.length_reverse]

theorem keepdim_head (l : List Nat) (d : Nat) (hd : d ≠ 1)
    (hh : l.headD 0 = d) (hr : squeezedRank l ≤ 1) (hl : 1 ≤ l.length) :
    l = d :: List.replicate (l.length - 1) 1 := by
  cases l with
  | nil => simp at hl
  | cons x xs =>
    simp only [List.headD_cons] at hh
    subst hh
    rw [squeezedRank_cons, if_neg hd] at hr
    rw [List.length_cons, Nat.add_sub_cancel, ← eq_replicate_of_squeezedRank_eq_zero xs (by omega)]

theorem keepdim_last (l : List Nat) (d : Nat) (hd : d ≠ 1)
    (hh : l.getLastD 0 = d) (hr : squeezedRank l ≤ 1) (hl : 1 ≤ l.length) :
    l = List.replicate (l.length - 1) 1 ++ [d] := by
  have := keepdim_head l.reverse d hd
    (by rw [List.headD_eq_head?_getD, List.head?_reverse, ← List.getLastD_eq_getLast?, hh])
    (by rwa [squeezedRank_reverse]) (by rwa [List.length_reverse])
  rw [List.length_reverse] at this
  exact (List.reverse_eq_iff.mp this).trans (by rw [List.reverse_cons, List.reverse_replicate])

/-- `simp only` with this turns a ladder `if c₁ then e else if c₂ then e else … else x` into
`if c₁ ∨ c₂ ∨ … then e else x` -/
theorem guard_or {α : Sort _} {c d : Prop} [Decidable c] [Decidable d] (x y : α) :
    (if c then y else if d then y else x) = if c ∨ d then y else x := by
  by_cases hc : c <;> simp only [hc, if_true, if_false, true_or, false_or]

/-- guard 1: the axis; guard 2: what an 8-bit qtype refuses; guard 3: what a sub-8-bit qtype refuses -/
theorem validateWeight_some (shape : List Nat) (q : QType) (a : Int) (gs : Option Nat)
    (opt : OptFamily) :
    validateWeight shape q (some a) gs opt =
      if (a ≠ 0 ∧ a ≠ -1) ∨
          (q.bits = 8 ∧ (opt = .affine ∨ gs.isSome ∨ (dimAt shape a ≠ 1 ∧ shape.length = 1))) ∨
          (q.bits ≠ 8 ∧ (opt = .symmetric ∨ ∃ g ∈ gs, groupShape shape (a = 0) g = none))
      then .error .valueError
      else .ok ⟨q, if q.bits = 8 ∧ dimAt shape a = 1 then none else some (a = 0), gs⟩ := by
  simp only [validateWeight]
  by_cases h8 : q.bits = 8
  · cases gs with
    | some g => simp [h8]
    | none => by_cases hd : dimAt shape a = 1 <;> simp [h8, hd, guard_or]
  · cases gs with
    | none => simp [h8, guard_or]
    | some g => cases hg : groupShape shape (a = 0) g <;> simp [h8, guard_or, hg]

theorem validateActivation_eq (sshape : List Nat) :
    validateActivation sshape = if sshape = [] then .ok () else .error .valueError := by
  cases sshape with
  | nil => rfl
  | cons x xs =>
    simp only [validateActivation, List.length_cons, Nat.zero_lt_succ, gt_iff_lt, if_true, ite_self,
      reduceCtorEq, if_false]

theorem validateAffine_some (shape : List Nat) (q : QType) (a : Int) (gs : Option Nat) :
    validateAffine shape q (some a) gs =
      if (q ≠ .qint2 ∧ q ≠ .qint4) ∨ (a ≠ 0 ∧ a ≠ -1) ∨ ∃ g ∈ gs, groupShape shape (a = 0) g = none
      then .error .valueError else .ok () := by
  simp only [validateAffine]
  cases gs with
  | none => simp [guard_or]
  | some g => cases hg : groupShape shape (a = 0) g <;> simp [guard_or, hg]

theorem symValidate_none (shape sshape : List Nat) :
    symValidate shape none sshape = if sshape = [] then .ok none else .error .valueError := by
  cases sshape <;> rfl

/-- the axis after `if axis == base.ndim - 1: axis = -1` of `SymmetricQuantizer.forward` -/
def normAxis (ndim : Nat) (a : Int) : Int := if a = (ndim : Int) - 1 then -1 else a

theorem symValidate_some (shape : List Nat) (a : Int) (sshape : List Nat) :
    symValidate shape (some a) sshape =
      if shape.length = 1 ∨ (normAxis shape.length a ≠ 0 ∧ normAxis shape.length a ≠ -1) ∨
          dimAt shape (normAxis shape.length a) = 1 ∨ squeezedRank sshape > 1 ∨
          sshape.length ≠ shape.length ∨
          dimAt sshape (normAxis shape.length a) ≠ dimAt shape (normAxis shape.length a) ∨
          prod sshape ≠ dimAt shape (normAxis shape.length a)
      then .error .valueError else .ok (some (normAxis shape.length a = 0)) := by
  simp only [symValidate, guard_or]
  rfl

theorem ok_of_guard {ε α : Type} {c : Prop} [Decidable c] {e : ε} {x y : α}
    (h : (if c then Except.error e else .ok x) = .ok y) : ¬ c ∧ x = y := by
  split at h
  next => cases h
  next hc => exact ⟨hc, Except.ok.inj h⟩

/-- the loop tries 128, 96, 64, 32 in turn: the group is the first of them that divides `n` -/
theorem autoGroup_eq_find (n : Nat) :
    autoGroup n = if n > 128 then [128, 96, 64, 32].find? (n % · = 0) else none := by
  unfold autoGroup
  simp only [autoGroupLoop, List.find?]
  by_cases hn : n > 128
  · simp only [if_pos hn]
    by_cases h1 : n % 128 = 0
    · simp [h1]
    by_cases h2 : n % 96 = 0
    · simp [h1, h2]
    by_cases h3 : n % 64 = 0
    · simp [h1, h2, h3]
    by_cases h4 : n % 32 = 0 <;> simp [h1, h2, h3, h4]
  · simp only [if_neg hn]

theorem find?_max_of_descending {p : Nat → Bool} {l : List Nat} (hs : l.Pairwise (· ≥ ·)) {g : Nat}
    (h : l.find? p = some g) : ∀ g' ∈ l, p g' = true → g' ≤ g := by
  obtain ⟨-, as, bs, rfl, has⟩ := List.find?_eq_some_iff_append.mp h
  intro g' hg' hp
  rcases List.mem_append.mp hg' with ha | hb
  · exact absurd hp (by simpa using has g' ha)
  · rcases List.mem_cons.mp hb with rfl | hb
    · exact Nat.le_refl _
    · exact (List.pairwise_cons.mp (List.pairwise_append.mp hs).2.1).1 g' hb

/-- decidable equality of `Except` values (core has none); used as a local instance by the
non-vacuity examples -/
@[instance_reducible]
def exceptDecEq {ε α : Type} [DecidableEq ε] [DecidableEq α] : DecidableEq (Except ε α)
  | .ok a, .ok b => if h : a = b then isTrue (by rw [h]) else isFalse (fun e => h (by cases e; rfl))
  | .error a, .error b =>
    if h : a = b then isTrue (by rw [h]) else isFalse (fun e => h (by cases e; rfl))
  | .ok _, .error _ => isFalse (fun e => by cases e)
  | .error _, .ok _ => isFalse (fun e => by cases e)

end Quanto.C14
