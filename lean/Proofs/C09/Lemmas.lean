/-
Helper definitions and lemmas for property C09: the forwards of a history by position
(`forwardPositions`, `stepsBefore`) and the storage arithmetic of a frozen weight.
-/
import Proofs.C09.History
import Proofs.Properties.C04
namespace Quanto

/-- positions of the `forward` events of a history -/
def forwardPositions (evs : List LifeEvent) : List Nat :=
  (List.range evs.length).filter fun i => evs[i]? == some .forward

/-- number of optimizer steps that reached the float weight before event `i`: the
`optimizerStep` events among the first `i`, up to the first `freeze` -/
def stepsBefore (evs : List LifeEvent) (i : Nat) : Nat :=
  ((evs.take i).takeWhile (· != .freeze)).count .optimizerStep

theorem forwardPositions_cons (e : LifeEvent) (r : List LifeEvent) :
    forwardPositions (e :: r) =
      (if e = .forward then [0] else []) ++ (forwardPositions r).map (· + 1) := by
  unfold forwardPositions
  rw [List.length_cons, List.range_succ_eq_map, List.filter_cons, List.filter_map]
  cases e <;> rfl

/-- every forward uses the quantized weight of the state reached by the events before it -/
theorem forwardVersions_eq_map (s : WState) (evs : List LifeEvent) :
    forwardVersions s evs =
      (forwardPositions evs).map fun i => ((evs.take i).foldl WState.step s).qweightVersion := by
  induction evs generalizing s with
  | nil => rfl
  | cons e r ih =>
    rw [forwardVersions_cons, forwardPositions_cons, List.map_append, List.map_map, ih]
    split <;> rfl

theorem stepsBefore_no_freeze (evs : List LifeEvent) (h : ∀ e ∈ evs, e ≠ .freeze) (i : Nat) :
    stepsBefore evs i = (evs.take i).count .optimizerStep := by
  unfold stepsBefore
  rw [takeWhile_all _ _ fun e he => bne_iff_ne.mpr (h e (List.mem_of_mem_take he))]

theorem groupShape_matrix (rows cols g : Nat) (hr : 0 < rows) (hc : 0 < cols) (hd : g ∣ cols) :
    groupShape [rows, cols] true g = some [rows * cols / g, g] := by
  have hq : rows * (cols * 1) / rows = cols := by
    rw [Nat.mul_one]; exact Nat.mul_div_cancel_left cols hr
  have hg : g ≠ 0 := Nat.ne_of_gt (Nat.pos_of_dvd_of_pos hd hc)
  have hfit : ¬ (g > cols ∨ cols % g ≠ 0) :=
    fun h => h.elim (Nat.not_lt.mpr (Nat.le_of_dvd hc hd)) (· (Nat.mod_eq_zero_of_dvd hd))
  unfold groupShape
  simp only [if_true, List.headD_cons, prod, hq]
  rw [if_neg (Nat.ne_of_gt hr), if_neg hg, if_neg hfit, Nat.mul_one]

/-- what `pack_weights` builds from an `[R, C]` code matrix, and the number of per-row scales -/
theorem packWeights_matrix (bits : Nat) (hb : bits = 2 ∨ bits = 4) (t : T Nat) (R C : Nat)
    (ht : t.shape = [R, C]) :
    (packWeights bits t).shape = [ceilDiv (R * bits) 8, C] ∧
      prod (packWeights bits t).shape = ceilDiv (R * bits) 8 * C ∧
      (packWeights bits t).data.size = ceilDiv (R * bits) 8 * C ∧
      prod (keptShape t.shape true) = R := by
  have hs : (packWeights bits t).shape = [ceilDiv (R * bits) 8, C] := by
    rw [C04_dense bits hb t, ht]; rfl
  have e : prod (packWeights bits t).shape = ceilDiv (R * bits) 8 * C := by
    rw [hs]; simp only [prod, Nat.mul_one]
  refine ⟨hs, e, by rw [C04_dense_size, e], ?_⟩
  rw [ht]; simp [keptShape, prod]

end Quanto
