/-
The weight state machine `WState` along a history of events (C09, C11): `forwardVersions` obeys one
equation (`forwardVersions_cons`); the rest is read off the state `evs.foldl WState.step s` a prefix reaches.
-/
import Quanto.Module
namespace Quanto

theorem WState.qweightVersion_step (s : WState) (e : LifeEvent) (h : e ≠ .optimizerStep) :
    (s.step e).qweightVersion = s.qweightVersion := by
  cases e with
  | optimizerStep => exact absurd rfl h
  | _ => cases s <;> rfl

theorem WState.step_frozen (v : Nat) (e : LifeEvent) : (WState.frozen v).step e = .frozen v := by
  cases e <;> rfl

theorem WState.foldl_step_frozen (v : Nat) (l : List LifeEvent) :
    l.foldl WState.step (.frozen v) = .frozen v := by
  induction l with
  | nil => rfl
  | cons e r ih => rw [List.foldl_cons, WState.step_frozen, ih]

theorem takeWhile_all {α : Type} (p : α → Bool) : ∀ (l : List α), (∀ x ∈ l, p x = true) → l.takeWhile p = l
  | [], _ => rfl
  | x :: r, h => by
    rw [List.takeWhile_cons, if_pos (h x (List.mem_cons_self ..)),
      takeWhile_all p r fun y hy => h y (List.mem_cons_of_mem _ hy)]

/-- the state reached from a float weight: its version has counted the optimizer steps before the
first freeze, and it is frozen iff a freeze occurred -/
theorem WState.foldl_step_float (v : Nat) (l : List LifeEvent) :
    l.foldl WState.step (.float v) =
      (if l.all (· != .freeze) then WState.float else WState.frozen)
        (v + (l.takeWhile (· != .freeze)).count .optimizerStep) := by
  induction l generalizing v with
  | nil => rfl
  | cons e r ih =>
    cases e
    case freeze => exact WState.foldl_step_frozen v r
    case optimizerStep =>
      refine (ih (v + 1)).trans ?_
      rw [List.takeWhile_cons_of_pos rfl, List.count_cons_self, Nat.add_assoc, Nat.add_comm 1]
      rfl
    all_goals exact ih v

theorem WState.foldl_step_float_of_no_freeze (v : Nat) (l : List LifeEvent) (h : ∀ e ∈ l, e ≠ .freeze) :
    l.foldl WState.step (.float v) = .float (v + l.count .optimizerStep) := by
  have hp : ∀ e ∈ l, (e != .freeze) = true := fun e he => bne_iff_ne.mpr (h e he)
  rw [WState.foldl_step_float, takeWhile_all _ l hp, List.all_eq_true.mpr hp, if_pos rfl]

/-- a forward emits the current quantized weight and leaves the state alone, so every event advances
the state by `step` -/
theorem forwardVersions_cons (s : WState) (e : LifeEvent) (r : List LifeEvent) :
    forwardVersions s (e :: r) =
      (if e = .forward then [s.qweightVersion] else []) ++ forwardVersions (s.step e) r := by
  cases e <;> rfl

theorem forwardVersions_append (s : WState) (pre post : List LifeEvent) :
    forwardVersions s (pre ++ post) =
      forwardVersions s pre ++ forwardVersions (pre.foldl WState.step s) post := by
  induction pre generalizing s with
  | nil => rfl
  | cons e r ih =>
    rw [List.cons_append, forwardVersions_cons, forwardVersions_cons, ih, List.append_assoc,
      List.foldl_cons]

theorem forwardVersions_const (s : WState) (evs : List LifeEvent)
    (h : (∃ v, s = .frozen v) ∨ ∀ e ∈ evs, e ≠ .optimizerStep) :
    forwardVersions s evs = List.replicate (evs.count .forward) s.qweightVersion := by
  induction evs generalizing s with
  | nil => rfl
  | cons e r ih =>
    have hq : (s.step e).qweightVersion = s.qweightVersion := by
      rcases h with ⟨v, rfl⟩ | h
      · rw [WState.step_frozen]
      · exact WState.qweightVersion_step s e (h e List.mem_cons_self)
    have h' : (∃ v, s.step e = .frozen v) ∨ ∀ e ∈ r, e ≠ .optimizerStep :=
      h.imp (fun ⟨v, hv⟩ => ⟨v, by rw [hv, WState.step_frozen]⟩)
        fun h e he => h e (List.mem_cons_of_mem _ he)
    rw [forwardVersions_cons, ih _ h', hq]
    by_cases he : e = .forward <;> simp [he, List.replicate_succ]

theorem forwardVersions_frozen (v : Nat) (evs : List LifeEvent) :
    forwardVersions (.frozen v) evs = List.replicate (evs.count .forward) v :=
  forwardVersions_const _ evs (.inl ⟨v, rfl⟩)

/-- reference semantics of an unfrozen module: a forward uses the current float version, an
optimizer step produces the next version, every other event leaves the weight alone -/
def expectedVersions (v : Nat) : List LifeEvent → List Nat
  | [] => []
  | .forward :: rest => v :: expectedVersions v rest
  | .optimizerStep :: rest => expectedVersions (v + 1) rest
  | _ :: rest => expectedVersions v rest

end Quanto
