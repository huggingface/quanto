/-
C06 for 2/4-bit tensors: the metadata a model `QBits` value reports and the shapes produced by
`affQuantize` (grouped codes, keepdim scale / zero-point, densely packed payload).
-/
import Proofs.C06.Basic
import Proofs.Properties.C03
import Proofs.Properties.C04
namespace Quanto.C06

/-- qtype name of a sub-byte width -/
def bitsQtypeName (bits : Nat) : String :=
  if bits = 2 then "qint2" else if bits = 4 then "qint4" else "other"

/-- what a model `QBits` value reports through the flatten interface: the `PackedTensor` holds
`pack_weights` of the codes and reports the shape of the (grouped) code matrix -/
def QBits.meta (F : Fmt) (q : QBits) : QBitsMeta :=
  { qtype := bitsQtypeName q.bits
    axis := some q.axisFirst
    groupSize := q.groupSize
    size := q.size
    outerDtype := fmtDtype F
    packedBits := q.bits
    packedSize := q.data.shape
    payloadShape := (packWeights q.bits q.data).shape
    payloadDtype := "uint8"
    scaleShape := q.scale.shape
    scaleDtype := fmtDtype F
    zeroShape := q.zero.shape
    zeroDtype := "int8" }

theorem maxOptimize_shapes (F : Fmt) (bits : Nat) (ext : Bool) (m : T FV) (af : Bool) :
    (maxOptimize F bits ext m af).scale.shape = keptShape m.shape af ∧
    (maxOptimize F bits ext m af).scale.data.size = prod (keptShape m.shape af) ∧
    (maxOptimize F bits ext m af).zero.shape = keptShape m.shape af ∧
    (maxOptimize F bits ext m af).zero.data.size = prod (keptShape m.shape af) := by
  refine ⟨rfl, ?_, rfl, ?_⟩ <;> simp [maxOptimize, reduceSlices_size]

/-- the shape of the code matrix: the input shape, or the grouped shape -/
def codeShape (shape : List Nat) (af : Bool) : Option Nat → Option (List Nat)
  | none => some shape
  | some g => groupShape shape af g

variable {F : Fmt} {bits : Nat} {ext : Bool} {x : T FV} {af : Bool} {gs : Option Nat} {q : QBits}

/-- the matrix both `affQuantize` and `affQuantizeWith` compute the codes from (the input, or its
grouped form) has the shape `codeShape` names -/
theorem base_shape {b : T FV}
    (h : (match gs with | none => Except.ok x | some g => group x af g) = .ok b) :
    codeShape x.shape af gs = some b.shape := by
  cases gs with
  | none => cases h; rfl
  | some g => exact let ⟨_, hs, hg⟩ := group_ok h; hg ▸ hs

/-- what a successful `AffineQuantizer.forward` returns, for any scale and zero-point -/
theorem affQuantizeWith_spec {p : AffineParams} (h : affQuantizeWith F bits x af gs p = .ok q) :
    q.bits = bits ∧ q.axisFirst = af ∧ q.groupSize = gs ∧ q.size = x.shape ∧ q.scale = p.scale ∧
      q.zero = p.zero ∧ q.data.data.size = prod q.data.shape ∧
      ∃ cs, codeShape x.shape af gs = some cs ∧ bcastShape cs p.scale.shape = some q.data.shape := by
  unfold affQuantizeWith at h
  simp only [] at h
  split at h
  · cases h
  · rename_i b hb
    split at h
    · cases h
    · rename_i out ho
      cases h
      exact ⟨rfl, rfl, rfl, rfl, rfl, rfl, T.size_ofFn out _, _, base_shape hb, ho⟩

/-- `affQuantize` is `affQuantizeWith` on the parameters `MaxOptimizer` finds for the code matrix -/
theorem affQuantize_with (h : affQuantize F bits ext x af gs = .ok q) :
    ∃ b, codeShape x.shape af gs = some b.shape ∧
      affQuantizeWith F bits x af gs (maxOptimize F bits ext b af) = .ok q := by
  unfold affQuantize at h
  simp only [] at h
  split at h
  next => cases h
  next b hb => exact ⟨b, base_shape hb, h⟩

theorem affQuantize_spec (h : affQuantize F bits ext x af gs = .ok q) :
    q.bits = bits ∧ q.axisFirst = af ∧ q.groupSize = gs ∧ q.size = x.shape ∧
      codeShape x.shape af gs = some q.data.shape ∧ q.data.data.size = prod q.data.shape ∧
      q.scale.shape = keptShape q.data.shape af ∧ q.scale.data.size = prod q.scale.shape ∧
      q.zero.shape = keptShape q.data.shape af ∧ q.zero.data.size = prod q.zero.shape := by
  obtain ⟨b, hb, hw⟩ := affQuantize_with h
  obtain ⟨h1, h2, h3, h4, h5, h6, h7, cs, hcs, hd⟩ := affQuantizeWith_spec hw
  obtain ⟨s1, s2, s3, s4⟩ := maxOptimize_shapes F bits ext b af
  rw [hb] at hcs
  cases hcs
  rw [s1, bcastShape_keptShape, Option.some.injEq] at hd
  rw [h5, h6, ← hd]
  exact ⟨h1, h2, h3, h4, hb, hd ▸ h7, s1, s2, s3, s4⟩

theorem ofName_bits (bits : Nat) (hb : bits = 2 ∨ bits = 4) :
    ∃ t, QType.ofName (bitsQtypeName bits) = some t ∧ t.bits = bits := by
  rcases hb with rfl | rfl
  · exact ⟨.qint2, by decide, rfl⟩
  · exact ⟨.qint4, by decide, rfl⟩

theorem wfQBits_of_shapes (F : Fmt) (q : QBits) (hb : q.bits = 2 ∨ q.bits = 4) (cs : List Nat)
    (hcs : codeShape q.size q.axisFirst q.groupSize = some cs) (hd : q.data.shape = cs)
    (hs : q.scale.shape = keptShape cs q.axisFirst) (hz : q.zero.shape = keptShape cs q.axisFirst) :
    wfQBits (QBits.meta F q) = .ok := by
  obtain ⟨t, h1, h2⟩ := ofName_bits q.bits hb
  have h8 : ¬ (t.bits = 8 ∨ q.bits ≠ t.bits) := by rw [h2]; omega
  have hp : (packWeights q.bits q.data).shape = ceilDiv (cs.headD 0 * t.bits) 8 :: cs.tail := by
    rw [C04_dense q.bits hb, hd, h2]
  unfold wfQBits QBits.meta
  simp only [h1, h8, if_false, ne_eq, not_true_eq_false, hd, hp, hs, hz]
  -- the verdict computes `codeShape` inline: `heq` is about that copy
  split
  · rename_i heq; cases heq.symm.trans hcs
  · rename_i cs' heq
    cases heq.symm.trans hcs
    simp

end Quanto.C06
