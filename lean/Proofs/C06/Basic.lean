/-
The invariant `QB.wf` in closed form (`wf_iff`) with the ways to establish it, and broadcasting a
shape against a keepdim shape of it.
-/
import Quanto.Spec.C06b
import Proofs.Tensor.Bcast
namespace Quanto

theorem Val.wf_qb (q : QB) : Val.wf (.qb q) = q.wf := by rw [Val.wf]
theorem Val.wf_plain (F : Fmt) (t : T FV) : Val.wf (.plain F t) = true := by
  rw [Val.wf] <;> intro _ h <;> cases h
theorem Val.wf_fail (e : Err) : Val.wf (.fail e) = true := by
  rw [Val.wf] <;> intro _ h <;> cases h
theorem Val.wf_boolT (t : T Bool) : Val.wf (.boolT t) = true := by
  rw [Val.wf] <;> intro _ h <;> cases h
theorem Val.wf_scalar (k : Rat) : Val.wf (.scalar k) = true := by
  rw [Val.wf] <;> intro _ h <;> cases h

theorem Val.wf_listV_iff (l : List Val) : Val.wf (.listV l) = true ↔ ∀ v ∈ l, v.wf = true := by
  rw [Val.wf]; simp only [List.all_subtype, List.unattach_attach, List.all_eq_true]

namespace C06

/-- the name checks of `wfQBytes` hold by construction -/
theorem ofName_qtypeName (Q : QT) :
    ∃ t, QType.ofName Q.qtypeName = some t ∧ t.bits = 8 ∧ t.storage = Q.storageName ∧ t.qt = Q := by
  cases Q
  · exact ⟨.qint8, rfl, rfl, rfl, rfl⟩
  · exact ⟨.qfloat8_e4m3fn, rfl, rfl, rfl, rfl⟩
  · exact ⟨.qfloat8_e5m2, rfl, rfl, rfl, rfl⟩

theorem wfQBytes_meta (q : QB) :
    wfQBytes q.meta =
      if q.data.shape ≠ q.size then .payloadShape else
      if q.axis.isSome ∧ q.size.length < 2 then .axisInvalid else
      if !(scaleShapeFor q.size q.axis).contains q.scale.shape then .scaleShape else .ok := by
  obtain ⟨t, h1, h2, h3, -⟩ := ofName_qtypeName q.Q
  unfold wfQBytes QB.meta
  simp only [h1, h2, h3, ne_eq, not_true_eq_false, if_false]

theorem scaleShapeFor_some (size : List Nat) (af : Bool) (h : 2 ≤ size.length) :
    scaleShapeFor size (some af) = [keptShape size af] :=
  match size, h with
  | _ :: _ :: _, _ => by cases af <;> rfl

theorem wf_iff (q : QB) :
    q.wf = true ↔
      q.data.shape = q.size ∧ q.data.data.size = prod q.size ∧
      q.scale.data.size = prod q.scale.shape ∧
      (q.axis = none → q.scale.shape = []) ∧
      (∀ af, q.axis = some af → 2 ≤ q.size.length ∧ q.scale.shape = keptShape q.size af) := by
  unfold QB.wf T.wf
  rw [wfQBytes_meta]
  simp only [Bool.and_eq_true, beq_iff_eq]
  constructor
  · rintro ⟨⟨h1, h2⟩, h3⟩
    split_ifs at h1 with a b c
    have a' : q.data.shape = q.size := Classical.not_not.mp a
    refine ⟨a', by rw [h2, a'], h3, ?_, ?_⟩
    · intro hax
      rw [hax] at c
      simpa [scaleShapeFor] using c
    · intro af hax
      have hl : 2 ≤ q.size.length := by
        rw [hax] at b; simp at b; omega
      refine ⟨hl, ?_⟩
      rw [hax, scaleShapeFor_some _ _ hl] at c
      simpa using c
  · rintro ⟨h1, h2, h3, h4, h5⟩
    refine ⟨⟨?_, by rw [h2, h1]⟩, h3⟩
    rw [if_neg (by simp [h1])]
    cases hax : q.axis with
    | none =>
      simp [scaleShapeFor, h4 hax]
    | some af =>
      obtain ⟨hl, hs⟩ := h5 af hax
      rw [if_neg (by simp; omega), scaleShapeFor_some _ _ hl, hs]
      simp

theorem wf_data {q : QB} (hq : q.wf = true) : q.data.data.size = prod q.data.shape := by
  obtain ⟨h1, h2, -⟩ := (wf_iff q).mp hq
  rw [h1, h2]

/-- the invariant depends on the axis, the size and the shapes and lengths of the two arrays only -/
theorem wf_congr {q r : QB} (hq : q.wf = true) (ha : r.axis = q.axis) (hz : r.size = q.size)
    (hd : r.data.shape = q.data.shape) (hds : r.data.data.size = q.data.data.size)
    (hs : r.scale.shape = q.scale.shape) (hss : r.scale.data.size = q.scale.data.size) :
    r.wf = true := by
  rw [wf_iff] at hq ⊢
  rw [ha, hz, hd, hds, hs, hss]
  exact hq

theorem wf_mapData {q : QB} (hq : q.wf = true) (f : FV → FV) :
    QB.wf { q with data := q.data.map f } = true :=
  wf_congr hq rfl rfl rfl (T.size_map _ _) rfl rfl

theorem wf_mapScale {q : QB} (hq : q.wf = true) (F' : Fmt) (g : FV → FV) :
    QB.wf { q with F := F', scale := q.scale.map g } = true :=
  wf_congr hq rfl rfl rfl rfl rfl (T.size_map _ _)

/-- a per-tensor value stays well-formed when its payload is replaced by any well-sized tensor
whose shape is reported as the size -/
theorem wf_perTensor {q r : QB} (hq : q.wf = true) (hax : q.axis = none) (ha : r.axis = none)
    (hs : r.scale = q.scale) (hz : r.data.shape = r.size)
    (hd : r.data.data.size = prod r.data.shape) : r.wf = true := by
  rw [wf_iff] at hq ⊢
  rw [ha, hs, ← hz]
  exact ⟨rfl, hd, hq.2.2.1, fun _ => hq.2.2.2.1 hax, nofun⟩

/-- `b` broadcasts to `a` dimension by dimension -/
def Compat : List Nat → List Nat → Prop
  | [], [] => True
  | x :: xs, y :: ys => (y = x ∨ y = 1) ∧ Compat xs ys
  | _, _ => False

theorem bcastDims_of_compat : ∀ (a b : List Nat), Compat a b → bcastDims a b = some a
  | [], [], _ => rfl
  | x :: xs, y :: ys, h => by
    have ih := bcastDims_of_compat xs ys h.2
    simp only [bcastDims, ih]
    rcases h.1 with rfl | rfl
    · simp
    · by_cases hx : x = 1
      · simp [hx]
      · simp [hx]
  | [], _ :: _, h => h.elim
  | _ :: _, [], h => h.elim

theorem compat_length : ∀ (a b : List Nat), Compat a b → b.length = a.length
  | [], [], _ => rfl
  | _ :: xs, _ :: ys, h => congrArg (· + 1) (compat_length xs ys h.2)
  | [], _ :: _, h => h.elim
  | _ :: _, [], h => h.elim

theorem compat_replicate_one : ∀ (a : List Nat), Compat a (List.replicate a.length 1)
  | [] => trivial
  | _ :: xs => ⟨Or.inr rfl, compat_replicate_one xs⟩

theorem compat_self : ∀ (a : List Nat), Compat a a
  | [] => trivial
  | _ :: xs => ⟨Or.inl rfl, compat_self xs⟩

theorem compat_keptLast : ∀ (s : List Nat), s ≠ [] →
    Compat s (List.replicate (s.length - 1) 1 ++ [s.getLastD 1])
  | [_], _ => ⟨Or.inl rfl, trivial⟩
  | _ :: y :: r, _ => ⟨Or.inr rfl, compat_keptLast (y :: r) (List.cons_ne_nil _ _)⟩

theorem compat_keptShape (s : List Nat) (af : Bool) : Compat s (keptShape s af) := by
  unfold keptShape
  split_ifs with h1 h2
  · exact compat_replicate_one s
  · match s, h1 with
    | d :: ds, _ => exact ⟨Or.inl rfl, compat_replicate_one ds⟩
  · exact compat_keptLast s (by rintro rfl; exact h1 (Nat.zero_le _))

theorem bcastShape_of_compat (a b : List Nat) (h : Compat a b) : bcastShape a b = some a := by
  have hl := compat_length a b h
  unfold bcastShape
  simp only [hl, Nat.max_self]
  rw [padShape_same a a rfl, padShape_same a b hl]
  exact bcastDims_of_compat a b h

theorem bcastShape_keptShape (s : List Nat) (af : Bool) : bcastShape s (keptShape s af) = some s :=
  bcastShape_of_compat _ _ (compat_keptShape s af)

theorem bcastShape_scale {size s : List Nat} {ax : Axis} (h0 : ax = none → s = [])
    (h1 : ∀ af, ax = some af → 2 ≤ size.length ∧ s = keptShape size af) :
    bcastShape size s = some size := by
  cases ax with
  | none => rw [h0 rfl]; exact bcastShape_nil_right _
  | some af => rw [(h1 af rfl).2]; exact bcastShape_keptShape _ _

end C06
end Quanto
