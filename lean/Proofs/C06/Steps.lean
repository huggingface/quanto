/-
C06 as an invariant of programs: the intercepted ops that may return quantized values, as a
datatype with an interpreter, and the closure of well-formedness under any sequence of them.
-/
import Proofs.C06.Ops
namespace Quanto.C06

/-- an intercepted op applied to one quantized tensor (other operands are parameters) -/
inductive QOp where
  | move (m : MoveOp)
  | t
  | neg
  | relu
  | mulScalar (k : Rat)
  | divScalar (k : Rat)
  | toDtype (F' : Fmt)
  | detach
  | clone
  | catWith (b : QB) (dim : Int)          -- `cat([q, b], dim)`
  | stackWith (b : QB) (dim : Int)        -- `stack([q, b], dim)` (repaired fallback)
  | split (sz : Nat) (dim : Int)          -- repaired `split`
  | softmax (oracle : T FV)
  | whereOp (oracle : T FV)

def QOp.run : QOp → QB → Val
  | .move m, q => qbMove m q
  | .t, q => qbT q
  | .neg, q => qbNeg q
  | .relu, q => qbRelu q
  | .mulScalar k, q => qbMulScalar q k
  | .divScalar k, q => qbDivScalar q k
  | .toDtype F', q => qbToDtype q F'
  | .detach, q => qbDetach q
  | .clone, q => qbClone q
  | .catWith b dim, q => qbCat [.qb q, .qb b] dim
  | .stackWith b dim, q => qbStack true [.qb q, .qb b] dim
  | .split sz dim, q => qbSplit true q sz dim
  | .softmax o, q => qbSoftmax q o
  | .whereOp o, q => qbWhere q o

/-- the quantized tensors a result holds (results are a value or a flat list of values) -/
def qbsOf : Val → List QB
  | .qb q => [q]
  | .listV l => l.filterMap fun v => match v with | .qb q => some q | _ => none
  | _ => []

/-- the quantized tensor the next op of a program is applied to -/
def firstQB (v : Val) : Option QB := (qbsOf v).head?

/-- the results of a program: each op is applied to the first quantized tensor returned by the
previous one; the program stops at the first result holding no quantized tensor -/
def trace : List QOp → QB → List Val
  | [], _ => []
  | op :: ops, q =>
    op.run q :: (match firstQB (op.run q) with
      | some q' => trace ops q'
      | none => [])

/-- `q'` is obtained from `q0` by some sequence of ops, choosing any quantized component of
each result -/
inductive Reach (q0 : QB) : QB → Prop where
  | base : Reach q0 q0
  | step {q q' : QB} (op : QOp) : Reach q0 q → q' ∈ qbsOf (op.run q) → Reach q0 q'

theorem step_wf (op : QOp) {q : QB} (hq : q.wf = true) : (op.run q).wf = true := by
  cases op with
  | move m => exact (qbMove_wf m hq).wf fun _ h => h.1
  | t => exact (qbT_wf hq).wf fun _ h => h.1
  | neg => exact (qbNeg_spec q).wf fun _ h => h ▸ wf_mapData hq _
  | relu => exact (qbRelu_spec q).wf fun _ h => h ▸ wf_mapData hq _
  | mulScalar k => exact (Val.wf_qb _).trans (wf_mapScale hq _ _)
  | divScalar k => exact (Val.wf_qb _).trans (wf_mapScale hq _ _)
  | toDtype F' => exact (Val.wf_qb _).trans (wf_mapScale hq _ _)
  | detach => exact (Val.wf_qb q).trans hq
  | clone => exact (Val.wf_qb q).trans hq
  | catWith b dim => exact (qbCat_wf b dim hq).wf fun _ h => h.1
  | stackWith b dim => exact (qbStack_wf true b dim hq).wf fun _ h => h.1
  | split sz dim => exact qbSplit_wf sz dim hq
  | softmax o => exact (requant_wf _ _ _ _).wf fun _ h => h.1
  | whereOp o => exact (qbWhere_wf q o).wf fun _ h => h.1

theorem wf_of_mem_qbsOf {v : Val} (hv : v.wf = true) {q : QB} (h : q ∈ qbsOf v) : q.wf = true := by
  cases v with
  | qb r => cases List.mem_singleton.mp h; exact (Val.wf_qb _).symm.trans hv
  | listV l =>
    obtain ⟨v, hvl, hvq⟩ := List.mem_filterMap.mp h
    cases v with
    | qb r => cases hvq; exact (Val.wf_qb _).symm.trans ((Val.wf_listV_iff l).mp hv _ hvl)
    | _ => cases hvq
  | _ => cases h

theorem reach_wf {q0 q : QB} (h0 : q0.wf = true) (h : Reach q0 q) : q.wf = true := by
  induction h with
  | base => exact h0
  | step op _ hmem ih => exact wf_of_mem_qbsOf (step_wf op ih) hmem

/-- a program only applies ops to reachable tensors -/
theorem trace_reach {q0 : QB} : ∀ (ops : List QOp) {q : QB}, Reach q0 q →
    ∀ v ∈ trace ops q, ∃ (op : QOp) (q' : QB), Reach q0 q' ∧ v = op.run q'
  | [], _, _, v, hv => by cases hv
  | op :: ops, q, hq, v, hv => by
    rw [trace, List.mem_cons] at hv
    rcases hv with rfl | hv
    · exact ⟨op, q, hq, rfl⟩
    · split at hv
      · rename_i q' hq'
        exact trace_reach ops (hq.step op (List.mem_of_mem_head? hq')) v hv
      · cases hv

end Quanto.C06
