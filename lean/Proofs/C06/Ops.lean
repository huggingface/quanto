/-
C06 at the level of `QB` values: quantization and every intercepted op that returns a quantized
value return a well-formed one.  Restated under `C06_*` names in `Proofs/Properties/C06.lean`.
-/
import Proofs.C06.Basic
import Proofs.C05.Lemmas
import Proofs.Properties.C14
namespace Quanto.C06

/-- `v` is a single result, not a list, and `P` holds of it if it is a quantized tensor.  Every
intercepted op but `split` returns one quantized tensor built from its input, or falls back to a
float tensor or an error; `P` says what the quantized tensor is. -/
def QOr (P : QB → Prop) : Val → Prop
  | .qb r => P r
  | .listV _ => False
  | _ => True

theorem QOr.of_eq {P : QB → Prop} {v : Val} {r : QB} (h : QOr P v) (e : v = .qb r) : P r := by
  subst e; exact h

theorem QOr.wf {P : QB → Prop} {v : Val} (h : QOr P v) (hP : ∀ r, P r → r.wf = true) :
    v.wf = true := by
  cases v with
  | qb r => rw [Val.wf_qb]; exact hP r h
  | listV l => exact h.elim
  | plain F t => exact Val.wf_plain _ _
  | boolT t => exact Val.wf_boolT _
  | scalar k => exact Val.wf_scalar _
  | fail e => exact Val.wf_fail _

theorem QOr_optToVal (P : QB → Prop) (F : Fmt) (o : Option (T FV)) : QOr P (optToVal F o) := by
  cases o <;> trivial

theorem symValidate_scale {shape s : List Nat} {axis : Option Int} {ax : Axis}
    (hv : symValidate shape axis s = .ok ax) :
    (ax = none → s = []) ∧ (∀ af, ax = some af → 2 ≤ shape.length ∧ s = keptShape shape af) := by
  cases axis with
  | none =>
    obtain ⟨rfl, h2⟩ := C14_symmetric_per_tensor _ _ _ hv
    exact ⟨fun _ => h2, nofun⟩
  | some a =>
    obtain ⟨af, rfl, h2, h3⟩ := C14_symmetric_per_axis_scale_shape _ _ _ _ hv
    rw [scaleShapeFor_some _ _ h2] at h3
    refine ⟨nofun, fun af' h => ?_⟩
    cases h
    exact ⟨h2, by simpa using h3⟩

theorem symQuantize_spec {F : Fmt} {Q : QT} {x : T FV} {axis : Option Int} {scale : T FV} {r : QBytes}
    (h : symQuantize F Q x axis scale = .ok r) :
    r.size = x.shape ∧ r.scale = scale ∧ r.data.shape = x.shape ∧ r.data.data.size = prod x.shape ∧
    (r.axis = none → scale.shape = []) ∧
    (∀ af, r.axis = some af → 2 ≤ x.shape.length ∧ scale.shape = keptShape x.shape af) := by
  unfold symQuantize at h
  split at h
  · cases h
  · rename_i ax hv
    obtain ⟨h0, h1⟩ := symValidate_scale hv
    rw [bcastShape_scale h0 h1] at h
    cases h
    exact ⟨rfl, rfl, rfl, T.size_ofFn _ _, h0, h1⟩

theorem quantize_wf {F : Fmt} {Q : QT} {x : T FV} {axis : Option Int} {scale : T FV} {r : QBytes}
    (h : symQuantize F Q x axis scale = .ok r) (hs : scale.data.size = prod scale.shape) :
    (QB.mk F Q r.axis r.size r.data r.scale).wf = true := by
  obtain ⟨h1, h2, h3, h4, h5, h6⟩ := symQuantize_spec h
  rw [wf_iff]
  simp only [h1, h2, h3]
  exact ⟨trivial, h4, hs, h5, h6⟩

theorem requant_wf (F : Fmt) (Q : QT) (x : T FV) (scale : FV) :
    QOr (fun r => r.wf = true ∧ r.axis = none ∧ r.size = x.shape ∧ r.F = F ∧ r.Q = Q)
      (requant F Q x scale) := by
  rw [C05.requant_eq]
  exact ⟨(wf_iff _).mpr ⟨rfl, T.size_ofFn _ _, rfl, fun _ => rfl, nofun⟩, rfl, rfl, rfl, rfl⟩

theorem qbWhere_wf (q : QB) (oracle : T FV) :
    QOr (fun r => r.wf = true ∧ r.axis = none ∧ r.size = oracle.shape ∧ r.F = q.F ∧ r.Q = q.Q)
      (qbWhere q oracle) := by
  unfold qbWhere
  split
  · exact requant_wf _ _ _ _
  · trivial

theorem qbMove_wf (m : MoveOp) {q : QB} (hq : q.wf = true) :
    QOr (fun r => r.wf = true ∧ q.axis = none ∧ r.axis = none ∧ m.apply q.data = some r.data ∧
      r.scale = q.scale ∧ r.F = q.F ∧ r.Q = q.Q) (qbMove m q) := by
  unfold qbMove
  split
  · rename_i hp
    have hax : q.axis = none := Option.isNone_iff_eq_none.mp hp
    split
    · rename_i d hd
      exact ⟨wf_perTensor hq hax rfl rfl rfl (move_wf m _ _ (wf_data hq) hd),
        hax, rfl, hd, rfl, rfl, rfl⟩
    · trivial
  · split
    · trivial
    · exact QOr_optToVal _ _ _

theorem qbMove_per_axis_not_quantized (m : MoveOp) {q : QB} (hq : q.axis ≠ none) :
    QOr (fun _ => False) (qbMove m q) := by
  unfold qbMove
  have hp : ¬ q.isPerTensor = true := fun hp => hq (Option.isNone_iff_eq_none.mp hp)
  rw [if_neg hp]
  split
  · trivial
  · exact QOr_optToVal _ _ _

theorem transpose?_matrix {α : Type} [Inhabited α] {t : T α} {d0 d1 : Nat} (hs : t.shape = [d0, d1]) :
    ∃ d, t.transpose? 0 1 = some d ∧ d.shape = [d1, d0] ∧ d.data.size = prod d.shape := by
  refine ⟨t.permute [1, 0], ?_, ?_, T.size_gather _ _ _⟩
  · unfold T.transpose?
    rw [hs]
    rfl
  · show permuteShape t.shape [1, 0] = _
    rw [hs]
    rfl

theorem qbT_wf {q : QB} (hq : q.wf = true) :
    QOr (fun r => r.wf = true ∧ r.axis = q.axis.map (!·) ∧ r.size = q.size.reverse ∧
      (q.size.length = 2 → q.data.transpose? 0 1 = some r.data) ∧ (q.size.length < 2 → r = q) ∧
      r.F = q.F ∧ r.Q = q.Q) (qbT q) := by
  obtain ⟨h1, -, -, -, h5⟩ := (wf_iff q).mp hq
  have low : q.size.length < 2 → q.axis = q.axis.map (!·) := fun hl => by
    cases hax : q.axis with
    | none => rfl
    | some af => exact absurd (h5 af hax).1 (Nat.not_le.mpr hl)
  unfold qbT
  match hsz : q.size with
  -- fewer than two dimensions: the tensor itself, which is per-tensor
  | [] => exact ⟨hq, low (by simp [hsz]), hsz, nofun, fun _ => rfl, rfl, rfl⟩
  | [_] => exact ⟨hq, low (by simp [hsz]), hsz, nofun, fun _ => rfl, rfl, rfl⟩
  | _ :: _ :: _ :: _ => trivial
  | [d0, d1] =>
    rw [hsz] at h1 h5
    obtain ⟨d, hd, hds, hdw⟩ := transpose?_matrix h1
    simp only [hd]
    cases hax : q.axis with
    | none => exact ⟨wf_perTensor hq hax rfl rfl hds hdw, rfl, rfl, fun _ => rfl, nofun, rfl, rfl⟩
    | some af =>
      have hss : q.scale.shape = [if af then d0 else 1, if af then 1 else d1] := by
        rw [(h5 af hax).2]; cases af <;> rfl
      obtain ⟨s, hs, hsh, hsw⟩ := transpose?_matrix hss
      simp only [hs]
      refine ⟨?_, rfl, rfl, fun _ => rfl, nofun, rfl, rfl⟩
      rw [wf_iff]
      refine ⟨hds, by rw [hdw, hds], hsw, nofun, fun af' h => ?_⟩
      cases h
      exact ⟨by simp, by rw [hsh]; cases af <;> rfl⟩

/-! scalar `mul` / `div`, dtype moves and copies return `.qb _` by definition: no lemma of this form -/

theorem qbNeg_spec (q : QB) : QOr (· = { q with data := q.data.map negCode }) (qbNeg q) := by
  unfold qbNeg
  split
  · split <;> trivial
  · exact rfl

theorem qbRelu_spec (q : QB) : QOr (· = { q with data := q.data.map reluCode }) (qbRelu q) := by
  unfold qbRelu
  split
  · split <;> trivial
  · exact rfl

theorem catQuantizedPath_axis {a b : QB} (h : catQuantizedPath a b = true) : a.axis = none := by
  simp only [catQuantizedPath, QB.isPerTensor, Bool.and_eq_true, Option.isNone_iff_eq_none] at h
  exact h.1.1.1

theorem qbCat_wf {a : QB} (b : QB) (dim : Int) (ha : a.wf = true) :
    QOr (fun r => r.wf = true ∧ T.cat? [a.data, b.data] dim = some r.data ∧ r.scale = a.scale)
      (qbCat [.qb a, .qb b] dim) := by
  unfold qbCat
  simp only []
  split
  · rename_i hc
    have hax := catQuantizedPath_axis (Bool.and_eq_true_iff.mp hc).1
    split
    · rename_i d hd
      exact ⟨wf_perTensor ha hax hax rfl rfl (T.cat?_wf _ _ _ hd), hd, rfl⟩
    · trivial
  · split
    · trivial
    · exact QOr_optToVal _ _ _

theorem qbStack_wf (fx : Bool) {a : QB} (b : QB) (dim : Int) (ha : a.wf = true) :
    QOr (fun r => r.wf = true ∧ T.stack? [a.data, b.data] dim = some r.data ∧ r.scale = a.scale)
      (qbStack fx [.qb a, .qb b] dim) := by
  unfold qbStack
  simp only []
  split
  · rename_i hc
    have hax := catQuantizedPath_axis hc
    split
    · rename_i d hd
      exact ⟨wf_perTensor ha hax hax rfl rfl (T.stack?_wf _ _ _ hd), hd, rfl⟩
    · trivial
  · split
    · trivial
    · split
      · trivial
      · split
        · trivial
        · exact QOr_optToVal _ _ _

theorem qbSplit_wf {q : QB} (sz : Nat) (dim : Int) (hq : q.wf = true) :
    (qbSplit true q sz dim).wf = true := by
  unfold qbSplit
  split
  · rename_i hp
    split
    · exact Val.wf_fail _
    · rename_i cs hcs
      rw [Val.wf_listV_iff]
      intro v hv
      obtain ⟨d, hd, rfl⟩ := List.mem_map.mp hv
      rw [Val.wf_qb]
      exact wf_perTensor hq (Option.isNone_iff_eq_none.mp hp) (Option.isNone_iff_eq_none.mp hp) rfl rfl
        (T.split?_wf _ (wf_data hq) _ _ _ hcs d hd)
  · split
    · exact Val.wf_fail _
    · split
      · exact Val.wf_fail _
      · rw [Val.wf_listV_iff]
        intro v hv
        obtain ⟨d, -, rfl⟩ := List.mem_map.mp hv
        exact Val.wf_plain _ _

/-- the original `split` re-wraps each chunk with the size of its input: a chunk of any other
shape is ill-formed -/
theorem split_unfixed_illformed {q : QB} {sz : Nat} {dim : Int} {cs : List (T FV)} {c : T FV}
    (hax : q.axis = none) (h : q.data.split? sz dim = some cs) (hc : c ∈ cs)
    (hs : c.shape ≠ q.size) : ∃ l, qbSplit false q sz dim = .listV l ∧ ∃ v ∈ l, v.wf = false :=
  ⟨_, by rw [C05.qbSplit_perTensor false q hax, h], _, List.mem_map_of_mem hc,
    (Val.wf_qb _).trans (Bool.eq_false_iff.mpr fun hw => hs ((wf_iff _).mp hw).1)⟩

/-- sample value for the counter-example: per-tensor f32 / qint8, a `4 × 2` payload -/
def qSplit : QB :=
  ⟨f32, .qint8, none, [4, 2],
    ⟨[4, 2], #[.fin 1, .fin 2, .fin 3, .fin 4, .fin 5, .fin 6, .fin 7, .fin 8]⟩, ⟨[], #[.fin 1]⟩⟩

end Quanto.C06
