/-
Helper lemmas for property C15: the v2 (int16) layout round trip.  `unpack_v2` splits the
words into nibbles and then undoes the steps of `pack_v2` one by one, in reverse order.
-/
import Proofs.C04.Fields
import Proofs.C15.Perm
import Mathlib.Tactic.Ring

namespace Quanto

theorem combine16_eq_wordSum (v : Nat → Nat) (h : ∀ i, v i < 16) :
    (v 0 ||| (v 1 <<< 4) ||| (v 2 <<< 8) ||| (v 3 <<< 12)) % 2 ^ 16 = wordSum 4 v 4 := by
  rw [show v 0 = wordSum 4 v 1 by simp [wordSum], wordSum_or_succ 4 v 1 fun i _ => h i,
    wordSum_or_succ 4 v 2 fun i _ => h i, wordSum_or_succ 4 v 3 fun i _ => h i,
    Nat.mod_eq_of_lt (wordSum_lt 4 v 4 fun i _ => h i)]

theorem awqCombine16_shape (D : T Nat) (a b c d : Nat) (hs : D.shape = [a, b, c, d]) :
    (awqCombine16 D).shape = [a, b * c] := by
  unfold awqCombine16; simp only [hs]; rfl

theorem awqCombine16_field (D : T Nat) (a b c d : Nat) (hs : D.shape = [a, b, c, d])
    (hc : ∀ i, D.get i < 16) (m : Nat) (hm : m < a * (b * c)) (j : Nat) (hj : j < 4) :
    ((awqCombine16 D).get m >>> (4 * j)) % 16 = D.get (4 * m + j) := by
  unfold awqCombine16
  simp only [hs]
  rw [T.get_ofFn _ _ _ (show m < a * (b * c * 1) by rw [Nat.mul_one]; exact hm),
    Nat.shiftRight_eq_div_pow]
  exact (congrArg (· / 2 ^ (4 * j) % 16)
    (combine16_eq_wordSum (fun i => D.get (4 * m + i)) fun _ => hc _)).trans
    (wordSum_field 4 _ 4 j hj fun _ _ => hc _)

/-- splitting the words of `combine` into nibbles gives the interleaved tensor back -/
theorem unpack_nibbles (D : T Nat) (a b : Nat) (hs : D.shape = [a, b, 64, 4])
    (hsz : D.data.size = prod D.shape) (hc : ∀ i, D.get i < 16) :
    T.ofFn [a, b, 64, 4] (fun n => ((awqCombine16 D).get (n / 4) >>> (4 * (n % 4))) % 16) = D := by
  refine T.ofFn_eq D _ _ hs.symm hsz fun n hn => ?_
  have hm : n / 4 < a * (b * 64) :=
    (Nat.div_lt_iff_lt_mul (by decide)).2 (by simpa only [prod, Nat.mul_one, Nat.mul_assoc] using hn)
  rw [awqCombine16_field D a b 64 4 hs hc _ hm _ (Nat.mod_lt _ (by decide)), Nat.div_add_mod]

theorem awqV2Reorder_eq (t : T Nat) (N K : Nat) (hs : t.shape = [N, K]) :
    awqV2Reorder t =
      (((t.reshape [N, K / 32, 4, 4, 2]).permute [0, 1, 3, 2, 4]).permute [0, 1, 2, 4, 3]).reshape
        [N, K] := by
  unfold awqV2Reorder; rw [hs]; rfl

theorem awqInterleave_eq (t : T Nat) (N K : Nat) (hs : t.shape = [N, K]) :
    awqInterleave t =
      ((t.reshape [N / 4, 4, K / 64, 64]).permute [0, 2, 1, 3]).reshape [N / 4, K / 64, 64, 4] := by
  unfold awqInterleave; rw [hs]; rfl

theorem awqUnpackV2_combine (D : T Nat) (a b : Nat) (hs : D.shape = [a, b, 64, 4])
    (hsz : D.data.size = prod D.shape) (hc : ∀ i, D.get i < 16) :
    awqUnpackV2 (awqCombine16 D) =
      (((((D.reshape [a, b, 4, 64]).permute [0, 2, 1, 3]).reshape [4 * a, 2 * b, 4, 2, 4]).permute
        [0, 1, 2, 4, 3]).permute [0, 1, 3, 2, 4]).reshape [4 * a, 64 * b] := by
  unfold awqUnpackV2
  simp only [awqCombine16_shape D a b 64 4 hs, List.headD_cons, List.getD_cons_succ,
    List.getD_cons_zero, T.reshape_reshape]
  rw [Nat.mul_div_cancel b (by decide : 0 < 64), unpack_nibbles D a b hs hsz hc, Nat.mul_comm a 4,
    Nat.mul_comm b 64, show 64 * b / 32 = 2 * b by omega]

theorem v2_roundtrip (t : T Nat) (N K : Nat) (hs : t.shape = [N, K]) (hsz : t.data.size = N * K)
    (h4 : 4 ∣ N) (h64 : 64 ∣ K) (hv : ∀ i, i < N * K → t.get i < 16) :
    awqUnpackV2 (awqPackV2 t) = t := by
  obtain ⟨m, rfl⟩ := h4
  obtain ⟨k, rfl⟩ := h64
  have hall := T.get_lt_all t 16 (by decide) (by rw [hsz]; exact hv)
  have e1 : 4 * m / 4 = m := Nat.mul_div_cancel_left m (by decide)
  have e2 : 64 * k / 64 = k := Nat.mul_div_cancel_left k (by decide)
  have e3 : 64 * k / 32 = 2 * k := by omega
  -- the interleaved tensor `D`, stage by stage; `pack_v2 t` is `combine D`
  have hD : awqInterleave (awqV2Reorder t) =
      ((((((t.reshape [4 * m, 2 * k, 4, 4, 2]).permute [0, 1, 3, 2, 4]).permute [0, 1, 2, 4, 3]).reshape
        [m, 4, k, 64]).permute [0, 2, 1, 3]).reshape [m, k, 64, 4]) := by
    rw [awqV2Reorder_eq t _ _ hs, awqInterleave_eq _ (4 * m) (64 * k) rfl, e1, e2, e3,
      T.reshape_reshape]
  have h0 : (t.reshape [4 * m, 2 * k, 4, 4, 2]).data.size = prod [4 * m, 2 * k, 4, 4, 2] := by
    show t.data.size = _
    rw [hsz]; simp only [prod]; ring
  have h3 : ((((t.reshape [4 * m, 2 * k, 4, 4, 2]).permute [0, 1, 3, 2, 4]).permute
      [0, 1, 2, 4, 3]).reshape [m, 4, k, 64]).data.size = prod [m, 4, k, 64] := by
    rw [T.size_reshape, T.size_permute]
    show prod [4 * m, 2 * k, 4, 2, 4] = _
    simp only [prod]; ring
  have hDs : (awqInterleave (awqV2Reorder t)).shape = [m, k, 64, 4] := by rw [hD]; rfl
  have hDsz : (awqInterleave (awqV2Reorder t)).data.size = prod (awqInterleave (awqV2Reorder t)).shape := by
    rw [hD, T.size_reshape, T.size_permute]
    show prod [m, k, 4, 64] = prod [m, k, 64, 4]
    simp only [prod, Nat.reduceMul]
  have hDv : ∀ i, (awqInterleave (awqV2Reorder t)).get i < 16 := by
    rw [hD]
    exact T.get_reshape_lt _ _ _ (T.get_permute_lt _ _ 16 (by decide) (T.get_reshape_lt _ _ _
      (T.get_permute_lt _ _ 16 (by decide) (T.get_permute_lt _ _ 16 (by decide)
        (T.get_reshape_lt _ _ _ hall)))))
  -- `unpack_v2` recovers `D`, then undoes each stage: a view back to the shape before the view,
  -- a permutation by its inverse
  unfold awqPackV2
  rw [awqUnpackV2_combine _ m k hDs hDsz hDv, hD, T.reshape_reshape,
    T.reshape_shape _ [m, k, 4, 64] rfl,
    T.permute_permute _ [0, 2, 1, 3] [0, 2, 1, 3] (by decide) rfl h3,
    T.reshape_reshape, T.reshape_shape _ [4 * m, 2 * k, 4, 2, 4] rfl,
    T.permute_permute _ [0, 1, 2, 4, 3] [0, 1, 2, 4, 3] (by decide) rfl (T.size_permute _ _),
    T.permute_permute _ [0, 1, 3, 2, 4] [0, 1, 3, 2, 4] (by decide) rfl h0, T.reshape_reshape,
    T.reshape_shape t _ hs]

end Quanto
