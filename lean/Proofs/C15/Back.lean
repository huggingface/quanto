/-
C15: `AwqBits.ofQBits` followed by `AwqBits.toQBits`, component by component.  The codes go through
the v2 round trip, the scales are transposed twice, and the integer zero-point `z` comes back from
the stored `fl(-z·s)` after division by the scale and rounding.
-/
import Proofs.C15.V2
import Proofs.Float.Work
import Proofs.C02.Convert
import Quanto.AwqBits

namespace Quanto

theorem T.get_reshape {α : Type} [Inhabited α] (X : T α) (s : List Nat) (i : Nat) :
    (X.reshape s).get i = X.get i := rfl

/-! ### the zero-point survives `fl(-z·s) / s` -/

theorem zeropoint_recovered_of_abs_le (F : Fmt) (hF : WorkFmt F) (s : Rat) (hrep : F.Rep s)
    (hpos : 0 < s) (z : Int) (K : Rat) (hz : |(z : Rat)| ≤ K) (hK : K ≤ 127)
    (hsmall : F.u * (2 * K + 1) + F.eta < 1 / 2) (hfin : s * |(z : Rat)| ≤ F.maxFin) :
    toInt8 ((F.div (F.mul (.fin (wrapInt8 (-z))) (.fin s)).neg (.fin s)).round) = z := by
  obtain ⟨hz1, hz2⟩ := abs_le.mp (show |z| ≤ 127 by exact_mod_cast le_trans hz hK)
  have hy := fl_fin_of_le F hF (s * ((-z : Int) : Rat)) (by
    rw [abs_mul, abs_of_pos hpos, Int.cast_neg, abs_neg]; exact hfin)
  -- the stored zero-point `y = fl(s·(-z))` satisfies `|-y - s·z| ≤ u·s·|z|`
  have e := mul_int_err F hF hrep hpos hy
  generalize F.flR (s * ((-z : Int) : Rat)) = y at hy e
  rw [Int.cast_neg, mul_neg, sub_neg_eq_add, abs_neg, ← abs_neg, neg_add'] at e
  obtain ⟨d, hd, hr⟩ := rhe_fl_div_near F hF hpos hz (hK.trans (by norm_num)) hsmall e
  rw [wrapInt8_id (-z) (by omega) (by omega), mul_fin, mul_comm, hy]
  show toInt8 (F.div (.fin (-y)) (.fin s)).round = z
  rw [div_fin F hpos.ne', hd]
  show toInt8 (.fin ((rhe d : Int) : Rat)) = z
  rw [hr]
  exact toInt8_intCast z (by omega) (by omega)

theorem zeropoint_recovered_work (F : Fmt) (hF : WorkFmt F) (s : Rat) (hrep : F.Rep s)
    (hpos : 0 < s) (z : Int) (hz : |z| ≤ 15) (hfin : s * 15 ≤ F.maxFin) :
    toInt8 ((F.div (F.mul (.fin (wrapInt8 (-z))) (.fin s)).neg (.fin s)).round) = z := by
  have hzq : |(z : Rat)| ≤ 15 := by exact_mod_cast hz
  have hsmall : F.u * (2 * 15 + 1) + F.eta < 1 / 2 :=
    (add_le_add (mul_le_mul_of_nonneg_right (u_eta_work F hF).1 (by norm_num))
      (eta_le_milli F hF)).trans_lt (by norm_num)
  exact zeropoint_recovered_of_abs_le F hF s hrep hpos z 15 hzq (by norm_num) hsmall
    (le_trans (mul_le_mul_of_nonneg_left hzq hpos.le) hfin)

/-! ### the scale and zero-point components -/

/-- scales: transposed twice -/
theorem back_scale {α : Type} [Inhabited α] (scale : T α) (N G M : Nat) (hM : M = N * G)
    (hss : scale.shape = [M, 1]) (hssz : scale.data.size = M) :
    (transpose2 (transpose2 (scale.reshape [N, G]))).reshape
      [(transpose2 (scale.reshape [N, G])).data.size, 1] = scale := by
  have hsz : (scale.reshape [N, G]).data.size = prod (scale.reshape [N, G]).shape := by
    show scale.data.size = prod [N, G]
    rw [hssz, hM]; simp [prod]
  rw [transpose2_transpose2 _ N G rfl hsz, transpose2_size _ N G rfl]
  refine T.ext ?_ rfl
  rw [hss, hM, Nat.mul_comm]
  rfl

/-- zero-points: negated, scaled, rounded; then divided by the scale and rounded -/
theorem back_zero (F : Fmt) (hF : WorkFmt F) (scale : T FV) (zero : T Int) (N G M : Nat)
    (hM : M = N * G)
    (hss : scale.shape = [M, 1]) (hssz : scale.data.size = M)
    (hsv : ∀ i, i < M → ∃ s, scale.get i = .fin s ∧ 0 < s ∧ F.Rep s ∧ s * 15 ≤ F.maxFin)
    (hzs : zero.shape = [M, 1]) (hzsz : zero.data.size = M)
    (hzv : ∀ i, i < M → |zero.get i| ≤ 15) :
    (T.ofFn [(transpose2 (scale.reshape [N, G])).data.size, 1] fun i =>
      toInt8 (F.div
        (((transpose2 (T.ofFn [G, N] fun j =>
          F.mul (.fin (wrapInt8 (-((transpose2 (zero.reshape [N, G])).get j))))
            ((transpose2 (scale.reshape [N, G])).get j))).reshape
          [(transpose2 (scale.reshape [N, G])).data.size, 1]).get i).neg
        (((transpose2 (transpose2 (scale.reshape [N, G]))).reshape
          [(transpose2 (scale.reshape [N, G])).data.size, 1]).get i)).round) = zero := by
  rw [back_scale scale N G M hM hss hssz, transpose2_size _ N G rfl]
  have hzwf : zero.data.size = prod zero.shape := by rw [hzs, hzsz]; simp [prod]
  refine T.ofFn_eq zero _ _ (by rw [hzs, hM, Nat.mul_comm]) hzwf fun i hi => ?_
  have hi' : i < N * G := by simpa [prod, Nat.mul_comm] using hi
  have hiM : i < M := hM ▸ hi'
  obtain ⟨hj, hinv⟩ := transposeSrc_inv N G i hi'
  simp only [T.get_reshape]
  rw [transpose2_get _ G N rfl i hi',
    T.get_ofFn _ _ _ (show _ < G * (N * 1) by rw [Nat.mul_one]; exact hj),
    transpose2_get _ N G rfl _ hj, transpose2_get _ N G rfl _ hj, hinv]
  show toInt8 (F.div (F.mul (.fin (wrapInt8 (-(zero.get i)))) (scale.get i)).neg (scale.get i)).round = _
  obtain ⟨s, hs, hpos, hrep, hfin⟩ := hsv i hiM
  rw [hs]
  exact zeropoint_recovered_work F hF s hrep hpos _ (hzv i hiM) hfin

end Quanto
