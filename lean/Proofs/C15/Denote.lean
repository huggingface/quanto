/-
Helper lemmas for property C15: the AWQ dequantizer `s·c + fl(-z·s)` and the standard
dequantizer `s·(c - z)` agree up to rounding.
-/
import Proofs.Float.Work
import Proofs.C02.Convert

namespace Quanto

/-- `C15_denotes_same` and `C15_denotes_same_rep` from a bound on the rounding error of a product
`s·n`, `n` an integer, with absolute part `η1`: `fl_err` gives `η1 = eta` for any scale,
`mul_int_err` gives `η1 = 0` for a representable one -/
theorem denote_sum (F : Fmt) (hF : WorkFmt F) (s : Rat) (c : Nat) (hc : c < 16) (z : Int)
    (hz0 : 0 ≤ z) (hz1 : z ≤ 15) (p1 p2 ya ys η1 : Rat)
    (herr : ∀ (n : Int) (p : Rat), F.fl (.fin (s * n)) = .fin p →
      |p - s * n| ≤ F.u * (s * |(n : Rat)|) + η1)
    (hp1 : F.mul (.fin s) (.fin (c : Rat)) = .fin p1)
    (hp2 : F.mul (.fin (wrapInt8 (-z))) (.fin s) = .fin p2)
    (hya : F.add (.fin p1) (.fin p2) = .fin ya) (hys : affDeq F c (.fin s) z = .fin ys) :
    |ya - ys| ≤ F.u * (s * c + s * z) * (1 + F.u) + 2 * F.u * |s * ((c : Rat) - z)| +
      (2 + 2 * F.u) * η1 + 2 * F.eta := by
  have e1 := herr c p1 hp1
  rw [wrapInt8_id (-z) (by omega) (by omega), mul_fin, mul_comm] at hp2
  have e2 := herr (-z) p2 hp2
  rw [Int.cast_natCast, abs_of_nonneg (Nat.cast_nonneg c : (0 : Rat) ≤ c)] at e1
  rw [Int.cast_neg, abs_neg, abs_of_nonneg (show (0 : Rat) ≤ z by exact_mod_cast hz0)] at e2
  rw [← Int.toNat_natCast c,
    affDeq_fin F c s z (Int.natCast_nonneg c) (by omega) (by omega) (by omega)] at hys
  have e3 := fl_err F hF (show F.fl (.fin (p1 + p2)) = .fin ya from hya)
  have e4 := fl_err F hF hys
  rw [Int.cast_sub, Int.cast_natCast] at e4
  have hA := err_comp_add F.u_nonneg e1 e2 e3
  rw [show s * (c : Rat) + s * -(z : Rat) = s * ((c : Rat) - z) by ring] at hA
  rw [abs_sub_comm] at e4
  exact (abs_sub_le ya _ ys).trans ((add_le_add hA e4).trans_eq (by ring))

end Quanto
