/-
Helpers for property C15 that rest on the model alone: the concrete matrix used by the non-vacuity
examples, and the closed form of the decision that selects the AWQ representation, as a proposition.
-/
import Quanto.Awq
import Quanto.AwqSelect

namespace Quanto

/-- the `[4, 64]` matrix with codes `i % 16` -/
def c15Sample : T Nat := ⟨[4, 64], Array.ofFn (n := 256) fun i => i.val % 16⟩

theorem c15Sample_lt : ∀ i, i < 4 * 64 → c15Sample.get i < 16 := by
  intro i hi
  have : i < 256 := hi
  simp [c15Sample, T.get, this]
  omega

theorem awqSelected_iff (c : CreateCfg) :
    awqSelected c = true ↔ (c.qtype = "qint4" ∧ c.dtype = "f16" ∧ c.axis = 0 ∧ c.groupSize = 128 ∧
      c.size.length = 2 ∧ c.devType = "cuda" ∧ 8 ≤ c.capMajor) := by
  simp only [awqSelected, Bool.and_eq_true, beq_iff_eq, decide_eq_true_eq, and_assoc]

end Quanto
