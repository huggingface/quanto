/-
Helper lemmas for property C15: the transposition of a matrix, as the AWQ layouts use it
(an instance of `T.permute_permute`, `Proofs/Tensor/Permute.lean`).
-/
import Quanto.AwqBits
import Proofs.Tensor.Permute

namespace Quanto

theorem permuteShape_eq_pick (s p : List Nat) : permuteShape s p = pick s p := rfl

variable {α : Type} [Inhabited α]

theorem transposeSrc_inv (a b n : Nat) (hn : n < a * b) :
    permuteSrc [b, a] [1, 0] n < b * a ∧
      permuteSrc [a, b] [1, 0] (permuteSrc [b, a] [1, 0] n) = n := by
  have h := permuteSrc_inv [a, b] [1, 0] [1, 0] (by decide) rfl n
    (show n < a * (b * 1) by rw [Nat.mul_one]; exact hn)
  rwa [show prod (permuteShape [a, b] [1, 0]) = b * a from congrArg (b * ·) (Nat.mul_one a)] at h

theorem transpose2_shape (X : T α) (a b : Nat) (hs : X.shape = [a, b]) :
    (transpose2 X).shape = [b, a] := by
  unfold transpose2 T.permute; rw [hs]; rfl

theorem transpose2_size (X : T α) (a b : Nat) (hs : X.shape = [a, b]) :
    (transpose2 X).data.size = b * a := by
  unfold transpose2 T.permute; rw [T.size_gather, hs]
  show b * (a * 1) = b * a
  rw [Nat.mul_one]

theorem transpose2_get (X : T α) (a b : Nat) (hs : X.shape = [a, b]) (n : Nat) (hn : n < b * a) :
    (transpose2 X).get n = X.get (permuteSrc [a, b] [1, 0] n) := by
  unfold transpose2 T.permute
  rw [hs, T.get_gather _ _ _ _ (show n < b * (a * 1) by rw [Nat.mul_one]; exact hn)]

theorem transpose2_transpose2 (X : T α) (a b : Nat) (hs : X.shape = [a, b])
    (hsz : X.data.size = prod X.shape) : transpose2 (transpose2 X) = X :=
  T.permute_permute X _ _ (by decide) (by rw [hs]; rfl) hsz

end Quanto
