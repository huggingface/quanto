/-
Helper lemmas for property C15, the v1 (int32) layout: which column each field of a packed word
holds, and which field `unpack` reads for a column.
-/
import Quanto.Awq
import Proofs.C04.Fields
import Proofs.Tensor.Basic

namespace Quanto

theorem awqPackV1_shape (reorder : Bool) (t : T Nat) (N C : Nat) (hs : t.shape = [N, 8 * C]) :
    (awqPackV1 reorder t).shape = [N, C] := by
  unfold awqPackV1; simp only [hs]
  exact congrArg (fun x => [N, x]) (Nat.mul_div_cancel_left C (by decide))

theorem awqField_awqPackV1 (reorder : Bool) (t : T Nat) (N C : Nat) (hs : t.shape = [N, 8 * C])
    (hc : ∀ i, t.get i < 16) (r w : Nat) (hr : r < N) (hw : w < C) (i : Nat) (hi : i < 8) :
    awqField ((awqPackV1 reorder t).get (r * C + w)) i =
      t.get (r * (8 * C) + w * 8 +
        (if reorder then Generated.awqOrder else identityOrder).getD i 0) := by
  unfold awqPackV1
  simp only [hs, List.headD_cons, List.getD_cons_succ, List.getD_cons_zero,
    Nat.mul_div_cancel_left C (by decide : 0 < 8)]
  rw [T.get_ofFn _ _ _ (show r * C + w < N * (C * 1) by rw [Nat.mul_one]; exact idx_lt _ _ _ _ hr hw),
    idx_div _ _ _ hw, idx_mod _ _ _ hw]
  -- the `|=` loop builds the word of 8 nibbles; `awqField` reads nibble `i`
  rw [foldl_or_eq_wordSum 4 32 _ 8 (by decide) fun _ _ => hc _, awqField, Nat.shiftRight_eq_div_pow]
  exact wordSum_field 4 _ 8 i hi fun _ _ => hc _

/-- the field `unpack` reads for column `i` of a word is where `pack` put that column: the two order
lists are inverse to each other (and the identity order to itself) -/
theorem v1_order : ∀ reorder : Bool, ∀ i, i < 8 →
    (if reorder then Generated.awqReverseOrder.getD i 0 else i) < 8 ∧
    (if reorder then Generated.awqOrder else identityOrder).getD
      (if reorder then Generated.awqReverseOrder.getD i 0 else i) 0 = i := by
  decide

/-- the position `unpack` reads for column `j` stays inside the word of column `j` -/
theorem v1_pos (reorder : Bool) (j : Nat) :
    (if reorder then 8 * (j / 8) + Generated.awqReverseOrder.getD (j % 8) 0 else j) =
      8 * (j / 8) + if reorder then Generated.awqReverseOrder.getD (j % 8) 0 else j % 8 := by
  cases reorder
  · exact (Nat.div_add_mod j 8).symm
  · rfl

end Quanto
