/-
Helpers for property C13: freshness of the handle-id counter, `exit` undoes `enter` on a fresh state,
hence a well-nested trace only moves the counter (`runTrace_eq`); the event view of a trace.
-/
import Quanto.Calib

namespace Quanto

/-- every registered handle has an id below the counter (what `RemovableHandle` guarantees) -/
def HookState.Fresh (g : HookState) : Prop :=
  (∀ p ∈ g.preHooks, p.1 < g.nextId) ∧ (∀ p ∈ g.postHooks, p.1 < g.nextId)

/-- the flat list of events of a well-nested trace -/
def Trace.events : Trace → List HookEvent
  | .nil => []
  | .ctx id inner next => .enter id :: (Trace.events inner ++ .exit :: Trace.events next)

theorem filter_ne_append_single (l : List (Nat × Nat)) (n c : Nat) (h : ∀ p ∈ l, p.1 ≠ n) :
    (l ++ [(n, c)]).filter (·.1 ≠ n) = l := by
  rw [List.filter_append, List.filter_eq_self.mpr fun p hp => by simpa using h p hp]
  simp

theorem HookState.enter_fst (g : HookState) (c : Nat) :
    (g.enter c).1 = { preHooks := g.preHooks ++ [(g.nextId, c)],
                      postHooks := g.postHooks ++ [(g.nextId + 1, c)],
                      nextId := g.nextId + 2, modeStack := c :: g.modeStack } := rfl

theorem HookState.enter_snd (g : HookState) (c : Nat) :
    (g.enter c).2 = (g.nextId, g.nextId + 1) := rfl

theorem HookState.enter_fresh {g : HookState} (h : g.Fresh) (c : Nat) : (g.enter c).1.Fresh := by
  constructor <;> intro p hp <;> rcases List.mem_append.mp hp with hp | hp
  · exact Nat.lt_add_right 2 (h.1 p hp)
  · rw [List.mem_singleton.mp hp]; exact Nat.lt_add_of_pos_right (by decide)
  · exact Nat.lt_add_right 2 (h.2 p hp)
  · rw [List.mem_singleton.mp hp]; exact Nat.add_lt_add_left (by decide) _

theorem HookState.Fresh.mono {g : HookState} (h : g.Fresh) {n : Nat} (hn : g.nextId ≤ n) :
    ({ g with nextId := n } : HookState).Fresh :=
  ⟨fun p hp => Nat.lt_of_lt_of_le (h.1 p hp) hn, fun p hp => Nat.lt_of_lt_of_le (h.2 p hp) hn⟩

/-- freshness makes the two filters of `exit` remove the context's own handles only -/
theorem HookState.exit_enter {g : HookState} (h : g.Fresh) (c n : Nat) :
    ({ (g.enter c).1 with nextId := n } : HookState).exit (g.enter c).2 = { g with nextId := n } := by
  rw [HookState.enter_snd, HookState.enter_fst, HookState.exit,
    filter_ne_append_single _ _ _ (fun p hp => Nat.ne_of_lt (h.1 p hp)),
    filter_ne_append_single _ _ _ (fun p hp => Nat.ne_of_lt (Nat.lt_succ_of_lt (h.2 p hp)))]
  rfl

theorem runTrace_nil (g : HookState) : runTrace g .nil = g := rfl

theorem runTrace_ctx (g : HookState) (c : Nat) (inner next : Trace) :
    runTrace g (.ctx c inner next) =
      runTrace ((runTrace (g.enter c).1 inner).exit (g.enter c).2) next := rfl

theorem runTrace_eq (t : Trace) (g : HookState) (hg : g.Fresh) :
    ∃ n, g.nextId ≤ n ∧ runTrace g t = { g with nextId := n } := by
  induction t generalizing g with
  | nil => exact ⟨_, Nat.le_refl _, rfl⟩
  | ctx c inner next ihI ihN =>
    obtain ⟨m, hm, e⟩ := ihI _ (HookState.enter_fresh hg c)
    have hm' : g.nextId ≤ m := Nat.le_trans (Nat.le_add_right _ 2) hm
    obtain ⟨n, hn, e'⟩ := ihN _ (hg.mono hm')
    rw [runTrace_ctx, e, HookState.exit_enter hg]
    exact ⟨n, Nat.le_trans hm' hn, e'⟩

theorem HookRun.step_enter (g : HookState) (stack : List (Nat × Nat)) (c : Nat) :
    HookRun.step ⟨g, stack⟩ (.enter c) = ⟨(g.enter c).1, (g.enter c).2 :: stack⟩ := rfl

theorem HookRun.step_exit (g : HookState) (h : Nat × Nat) (stack : List (Nat × Nat)) :
    HookRun.step ⟨g, h :: stack⟩ .exit = ⟨g.exit h, stack⟩ := rfl

theorem extSwitch_append_single (events : List Bool) (e enabled : Bool) (depth : Nat) :
    (extSwitch (events ++ [e]) enabled depth).1 = !e := by
  cases e <;> simp [extSwitch, List.foldl_append]

end Quanto
