/-
Helper lemmas for property C03: `group` / `ungroup` as index maps; the axis -1 maps are rotations
of a three-axis multi-index (`rot3`), which gives range and inverse at once.
-/
import Quanto.Affine
import Proofs.Tensor.Index

namespace Quanto

/-! ### what a successful `groupShape` tells -/

theorem groupShape_first_spec {shape : List Nat} {gs : Nat} {s : List Nat}
    (h : groupShape shape true gs = some s) :
    shape ≠ [] ∧ 0 < gs ∧ gs ∣ prod shape.tail ∧ s = [prod shape / gs, gs] := by
  unfold groupShape at h
  simp only [if_true] at h
  split_ifs at h with h1 h2 h3
  have hne : shape ≠ [] := by
    rintro rfl; exact h1 rfl
  rw [prod_eq_head_mul_tail shape hne, Nat.mul_div_cancel_left _ (Nat.pos_of_ne_zero h1)] at h3
  exact ⟨hne, Nat.pos_of_ne_zero h2, Nat.dvd_of_mod_eq_zero (not_not.mp (not_or.mp h3).2),
    (Option.some.inj h).symm⟩

theorem groupShape_last_spec {shape : List Nat} {gs : Nat} {s : List Nat}
    (h : groupShape shape false gs = some s) :
    0 < shape.getLastD 0 ∧ 0 < prod shape / shape.getLastD 0 / gs ∧
      prod shape = prod shape / shape.getLastD 0 / gs * gs * shape.getLastD 0 ∧
      s = [gs, shape.getLastD 0 * (prod shape / shape.getLastD 0 / gs)] := by
  unfold groupShape at h
  simp only [Bool.false_eq_true, if_false] at h
  split_ifs at h with h1 h2 h3
  have hne : shape ≠ [] := by
    rintro rfl; exact h1 rfl
  have hD : 0 < shape.getLastD 0 := Nat.pos_of_ne_zero h1
  have hgs : 0 < gs := Nat.pos_of_ne_zero h2
  have hp := prod_eq_dropLast_mul_getLast shape hne
  obtain ⟨h3, h4⟩ := not_or.mp h3
  refine ⟨hD, Nat.div_pos (not_lt.mp h3) hgs, ?_, (Option.some.inj h).symm⟩
  rw [Nat.div_mul_cancel (Nat.dvd_of_mod_eq_zero (not_not.mp h4)),
    Nat.div_mul_cancel ⟨_, hp.trans (Nat.mul_comm _ _)⟩]

/-! ### the axis -1 index maps on an abstract `(G, gs, D)` view -/

/-- `groupSrc` for axis -1 with the three extents made explicit -/
def gSrc3 (G gs D n : Nat) : Nat :=
  match unflat [gs, D, G] n with
  | [a, b, c] => flat [G, gs, D] [c, a, b]
  | _ => 0

/-- `ungroupSrc` for axis -1 with the three extents made explicit -/
def uSrc3 (G gs D n : Nat) : Nat :=
  match unflat [G, gs, D] n with
  | [c, a, b] => flat [gs, D, G] [a, b, c]
  | _ => 0

theorem groupSrc_last (shape : List Nat) (gs n : Nat) :
    groupSrc shape false gs n =
      gSrc3 (prod shape / shape.getLastD 0 / gs) gs (shape.getLastD 0) n := rfl

theorem ungroupSrc_last (shape : List Nat) (gs n : Nat) :
    ungroupSrc shape false gs n =
      uSrc3 (prod shape / shape.getLastD 0 / gs) gs (shape.getLastD 0) n := rfl

theorem groupSrc_first (shape : List Nat) (gs n : Nat) : groupSrc shape true gs n = n := rfl

/-- written as `row * D + column` of the original -/
theorem gSrc3_eq (G gs D n : Nat) :
    gSrc3 G gs D n = (n % (D * G) % G * gs + n / (D * G)) * D + n % (D * G) / G := by
  unfold gSrc3
  rw [unflat3]
  simp only [flat3]
  ring

theorem uSrc3_eq (G gs D n : Nat) :
    uSrc3 G gs D n = n % (gs * D) / D * (D * G) + (n % (gs * D) % D * G + n / (gs * D)) := by
  unfold uSrc3
  rw [unflat3]
  simp only [flat3]

theorem gSrc3_one (gs D n : Nat) : gSrc3 1 gs D n = n := by
  rw [gSrc3_eq]
  simp only [Nat.mul_one, Nat.mod_one, Nat.zero_mul, Nat.div_one, Nat.zero_add]
  exact Nat.div_add_mod' n D

/-- rotation of a three-axis multi-index: both maps move the group axis from one end to the other -/
def rot3 : List Nat → List Nat
  | [a, b, c] => [b, c, a]
  | _ => []

theorem valid_rot3 {A B C : Nat} (i : List Nat) (h : validIdx [A, B, C] i) :
    validIdx [B, C, A] (rot3 i) := by
  obtain ⟨a, b, c, rfl, ha, hb, hc⟩ := validIdx3 h
  exact ⟨hb, hc, ha, trivial⟩

theorem rot3_rot3_rot3 {A B C : Nat} (i : List Nat) (h : validIdx [A, B, C] i) :
    rot3 (rot3 (rot3 i)) = i := by
  obtain ⟨a, b, c, rfl, -⟩ := validIdx3 h
  rfl

theorem uSrc3_flat (G gs D n : Nat) :
    uSrc3 G gs D n = flat [gs, D, G] (rot3 (unflat [G, gs, D] n)) := by
  unfold uSrc3; rw [unflat3]; rfl

theorem gSrc3_flat (G gs D n : Nat) :
    gSrc3 G gs D n = flat [G, gs, D] (rot3 (rot3 (unflat [gs, D, G] n))) := by
  unfold gSrc3; rw [unflat3]; rfl

theorem uSrc3_lt (G gs D n : Nat) (h : n < G * gs * D) : uSrc3 G gs D n < G * gs * D := by
  rw [← prod3] at h
  rw [uSrc3_flat, ← prod3_rot]
  exact reindex_lt valid_rot3 h

theorem gSrc3_lt (G gs D n : Nat) (h : n < G * gs * D) : gSrc3 G gs D n < G * gs * D := by
  rw [← prod3_rot] at h
  rw [gSrc3_flat, ← prod3]
  exact reindex_lt (fun i hi => valid_rot3 _ (valid_rot3 i hi)) h

theorem gSrc3_uSrc3 (G gs D n : Nat) (h : n < G * gs * D) : gSrc3 G gs D (uSrc3 G gs D n) = n := by
  rw [← prod3] at h
  rw [gSrc3_flat, uSrc3_flat]
  exact reindex_inv (τ := fun i => rot3 (rot3 i)) valid_rot3 rot3_rot3_rot3 h

theorem uSrc3_gSrc3 (G gs D n : Nat) (h : n < G * gs * D) : uSrc3 G gs D (gSrc3 G gs D n) = n := by
  rw [← prod3_rot] at h
  rw [gSrc3_flat, uSrc3_flat]
  exact reindex_inv (σ := fun i => rot3 (rot3 i)) (fun i hi => valid_rot3 _ (valid_rot3 i hi))
    rot3_rot3_rot3 h

/-! ### `group` inverted, `ungroup` branch by branch -/

theorem group_ok {α : Type} [Inhabited α] {t g : T α} {af : Bool} {gs : Nat}
    (h : group t af gs = .ok g) :
    ∃ s, groupShape t.shape af gs = some s ∧ g = t.gather s (groupSrc t.shape af gs) := by
  unfold group at h
  split at h
  next => cases h
  next s hs => exact ⟨s, hs, (Except.ok.inj h).symm⟩

theorem ungroup_of_shape_eq {α : Type} [Inhabited α] (g : T α) (af : Bool) (orig : List Nat)
    (h : g.shape = orig) : ungroup g af orig = g := if_pos h

theorem ungroup_first {α : Type} [Inhabited α] (g : T α) (orig : List Nat) :
    ungroup g true orig = ⟨orig, g.data⟩ := by
  unfold ungroup
  rw [if_pos rfl]
  split_ifs with h
  · exact T.ext h rfl
  · rfl

theorem ungroup_last {α : Type} [Inhabited α] (g : T α) (orig : List Nat) (h : g.shape ≠ orig) :
    ungroup g false orig = g.gather orig (ungroupSrc orig false (g.shape.headD 0)) :=
  if_neg h

end Quanto
