/-
Helper lemmas for property C03: the scale clamped to the smallest positive value of the format
(`absmaxOf F qmax true`), and the sharp non-saturation bound it satisfies; at the end, the concrete
data of the non-vacuity examples.
-/
import Proofs.C03.Lemmas

namespace Quanto

/-! ### the smallest positive value -/

theorem minPos_eq (F : Fmt) : F.minPos = 2 * F.eta1 := by
  unfold Fmt.minPos Fmt.eta1
  rw [pow2_succ]

theorem minPos_pos (F : Fmt) : 0 < F.minPos := pow2_pos _

theorem minPos_le (F : Fmt) : F.minPos ≤ 2 * F.eta := by
  rw [minPos_eq]; exact mul_le_mul_of_nonneg_left (eta1_le_eta F) zero_le_two

/-! ### `absmaxOf` on a finite maximum -/

theorem clampMin_fin (m q : Rat) : FV.clampMin m (.fin q) = .fin (max q m) :=
  congrArg FV.fin (max_def_lt q m).symm

theorem absmaxOf_true (F : Fmt) (qmax : Rat) (r : FV) :
    absmaxOf F qmax true r = (F.div r (.fin qmax)).clampMin F.minPos := by
  simp [absmaxOf]

theorem absmaxOf_false (F : Fmt) (qmax : Rat) (r : FV) :
    absmaxOf F qmax false r = F.div r (.fin qmax) := by
  simp [absmaxOf]

theorem absmaxOf_fin (F : Fmt) (hF : WorkFmt F) (qmax : Rat) (hq : 1 ≤ qmax) (a : Rat)
    (ha0 : 0 ≤ a) (ha : a ≤ F.maxFin) :
    absmaxOf F qmax true (.fin a) = .fin (max (F.flR (a / qmax)) F.minPos) := by
  rw [absmaxOf_true, div_qmax_fin F hF qmax hq a ha0 ha, clampMin_fin]

/-- the clamp would make `-inf` finite, but a non-negative quotient rounds to a finite value or
`+inf` -/
theorem absmaxOf_fin_inv (F : Fmt) (hF : WorkFmt F) {qmax a sq : Rat} (hq : 1 ≤ qmax) (ha : 0 ≤ a)
    (h : absmaxOf F qmax true (.fin a) = .fin sq) :
    ∃ r, F.fl (.fin (a / qmax)) = .fin r ∧ sq = max r F.minPos := by
  rw [absmaxOf_true, div_fin F (zero_lt_one.trans_le hq).ne'] at h
  rcases fl_cases_of_nonneg F hF (div_nonneg ha (zero_le_one.trans hq)) with hc | hc <;>
    rw [hc] at h
  · rw [clampMin_fin] at h
    exact ⟨_, hc, (FV.fin.inj h).symm⟩
  · cases h

/-! ### the sharp bound -/

/-- the half formats, on variables: constants `a = uF`, `b = u32`, `d = η32`, `e = ηF`, with the
total constants `u = a + b + ab`, `η = e + (1 + a) d`, and the clamp `2e ≤ r'` -/
theorem clamped_tight_half (a b d e u η z r r' : Rat) (ha : b ≤ a) (hb0 : 0 ≤ b) (hb : 2 * b ≤ 1)
    (hd0 : 0 ≤ d) (hde : d ≤ e) (hu : u = a + b + a * b) (hη : η = e + (1 + a) * d)
    (hz : 0 ≤ z) (hrr : r ≤ r') (hm : 2 * e ≤ r') (h : z - r ≤ b * z + d + e) :
    z ≤ r' * (1 + 2 * u) + η := by
  have h2 := le_of_mul_one_sub_le b z (r + e + d) hb0 hb hz (by linarith only [h])
  -- `r ≤ r'`, and the surplus `2b(e + d) ≤ 4be ≤ 2a·r'` is paid by the relative term of `r' ≥ 2e`
  have ha0 := hb0.trans ha
  have he0 := hd0.trans hde
  have p1 : 0 ≤ (a - b) * e := mul_nonneg (sub_nonneg.2 ha) he0
  have p2 : 0 ≤ b * (e - d) := mul_nonneg hb0 (sub_nonneg.2 hde)
  have p3 : 0 ≤ (a + a * b) * (r' - 2 * e) :=
    mul_nonneg (add_nonneg ha0 (mul_nonneg ha0 hb0)) (sub_nonneg.2 hm)
  have p4 : 0 ≤ b * (r' - r) := mul_nonneg hb0 (sub_nonneg.2 hrr)
  have p5 : 0 ≤ a * d := mul_nonneg ha0 hd0
  have p6 : 0 ≤ a * b * e := mul_nonneg (mul_nonneg ha0 hb0) he0
  subst hu hη
  linarith only [h2, hrr, p1, p2, p3, p4, p5, p6]

/-- `le_of_fl_loose` with `η` outside the factor `1 + 2u`, which needs the clamp: false for the
unclamped float16 scale (`C03_nonsaturating_counterexample_f16`) -/
theorem clamped_tight (F : Fmt) (hF : WorkFmt F) (z r : Rat) (hz0 : 0 ≤ z)
    (h : F.fl (.fin z) = .fin r) : z ≤ max r F.minPos * (1 + 2 * F.u) + F.eta := by
  have hr' : r ≤ max r F.minPos := le_max_left _ _
  have hu0 := F.u_nonneg
  by_cases hn : pow2 F.emin ≤ z
  · -- normal range: purely relative error
    have h1 := le_of_fl_normal F hF hz0 hn h
    have h2 := mul_le_mul_of_nonneg_right hr' (add_nonneg zero_le_one (mul_nonneg zero_le_two hu0))
    linarith only [h1, h2, F.eta_nonneg]
  · have hz : |z| < pow2 F.emin := by rw [abs_of_nonneg hz0]; exact not_le.mp hn
    have ok := work_inF32 hF
    have hr0 := fl_nonneg F hF hz0 h
    obtain ⟨rfl, -⟩ := fl_fin F hF h
    cases hh : F.isHalf
    · have e := rndFin_err_subnormal F z (hz.trans (pow2_lt_pow2 (lt_add_one _)))
      rw [← Fmt.flR_of_not_half hh] at e
      have e' := neg_le_abs (F.flR z - z)
      rw [Fmt.eta_of_not_half hh]
      have := mul_nonneg (hr0.trans hr') (mul_nonneg zero_le_two hu0)
      linarith only [e, e', hr', this]
    · have e := flR_err_sub_half ok hh z hz
      have e' := neg_le_abs (F.flR z - z)
      rw [abs_of_nonneg hz0] at e
      have hp : (F.p : Int) ≤ (f32.p : Int) := Int.ofNat_le.2 ok.p_le
      exact clamped_tight_half F.u1 f32.u1 f32.eta1 F.eta1 F.u F.eta z _ _
        (pow2_le_pow2 (neg_le_neg hp)) f32.u1_pos.le (by norm_num [Fmt.u1, f32, pow2_eq]) f32.eta1_pos.le
        (pow2_le_pow2 (sub_le_sub ok.emin_ge hp)) (Fmt.u_of_half hh) (Fmt.eta_of_half hh) hz0 hr'
        (by rw [← minPos_eq]; exact le_max_right _ _) (by linarith only [e, e'])

end Quanto

namespace Quanto.C03Ex

/-- the example tensor: shape `[4, 6]`, position `n` holds `n` -/
def exT : T FV := T.ofFn [4, 6] fun n => .fin n

theorem exT_wf : exT.data.size = prod exT.shape := T.size_ofFn _ _

theorem exScale :
    f16.div (.fin (listAbsMax [1 / 3, -2, 5 / 4])) (.fin 127) = .fin (129 / 8192) := by
  decide +kernel

end Quanto.C03Ex
