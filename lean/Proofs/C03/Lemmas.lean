/-
C03 on one slice: `listAbsMax` is the least upper bound of the magnitudes and the scale is
`fl(amax / qmax)`; on tensors: every per-key value is a function of `sliceVals`, which reads its
own slice only.
-/
import Quanto.Spec.C02
import Proofs.Float.Work
import Proofs.Tensor.Index
import Proofs.C02.MinMax

namespace Quanto

/-! ### the largest magnitude of a slice -/

/-- `max |x|` over a list (0 for the empty list) -/
def listAbsMax (xs : List Rat) : Rat := xs.foldl (fun a x => max a |x|) 0

theorem specAmax_eq (xs : List Rat) :
    xs.foldl (fun a x => ratMax a (rabs x)) 0 = listAbsMax xs := by
  simp only [ratMax_eq_max, rabs_eq]; rfl

theorem listAbsMax_cons (x : Rat) (xs : List Rat) :
    listAbsMax (x :: xs) = xs.foldl (fun a x => max a |x|) |x| := by
  unfold listAbsMax
  rw [List.foldl_cons, max_eq_right (abs_nonneg x)]

theorem foldl_absmax_le_iff (xs : List Rat) (a B : Rat) :
    xs.foldl (fun a x => max a |x|) a ≤ B ↔ a ≤ B ∧ ∀ x ∈ xs, |x| ≤ B := by
  induction xs generalizing a with
  | nil => simp
  | cons y ys ih => rw [List.foldl_cons, ih, max_le_iff, List.forall_mem_cons, and_assoc]

theorem listAbsMax_nonneg (xs : List Rat) : 0 ≤ listAbsMax xs :=
  ((foldl_absmax_le_iff xs 0 _).1 le_rfl).1

theorem le_listAbsMax (xs : List Rat) (x : Rat) (hx : x ∈ xs) : |x| ≤ listAbsMax xs :=
  ((foldl_absmax_le_iff xs 0 _).1 le_rfl).2 x hx

theorem listAbsMax_le {xs : List Rat} {B : Rat} (hB : 0 ≤ B) (h : ∀ x ∈ xs, |x| ≤ B) :
    listAbsMax xs ≤ B :=
  (foldl_absmax_le_iff xs 0 B).2 ⟨hB, h⟩

/-! ### `FV.max` on finite values -/

theorem foldl_FVmax_fin (xs : List Rat) (a : Rat) :
    (xs.map fun x => FV.abs (.fin x)).foldl FV.max (.fin a) =
      .fin (xs.foldl (fun a x => max a |x|) a) := by
  induction xs generalizing a with
  | nil => rfl
  | cons y ys ih =>
    rw [List.map_cons, List.foldl_cons, List.foldl_cons]
    show List.foldl FV.max (FV.max (.fin a) (.fin (rabs y))) _ = _
    rw [FVmax_fin, rabs_eq]
    exact ih _

/-! ### the scale `fl(amax / qmax)` -/

theorem div_qmax_fin (F : Fmt) (hF : WorkFmt F) (qmax : Rat) (hq : 1 ≤ qmax) (a : Rat)
    (ha0 : 0 ≤ a) (ha : a ≤ F.maxFin) :
    F.div (.fin a) (.fin qmax) = .fin (F.flR (a / qmax)) := by
  rw [div_fin F (zero_lt_one.trans_le hq).ne']
  refine fl_fin_of_le F hF _ ?_
  rw [abs_of_nonneg (div_nonneg ha0 (zero_le_one.trans hq))]
  exact (div_le_self ha0 hq).trans ha

theorem quot_of_scale {F : Fmt} {qmax a sq : Rat} (hq : 1 ≤ qmax) (ha : 0 ≤ a)
    (h : F.div (.fin a) (.fin qmax) = .fin sq) :
    0 < qmax ∧ 0 ≤ a / qmax ∧ F.fl (.fin (a / qmax)) = .fin sq := by
  have hq0 := zero_lt_one.trans_le hq
  exact ⟨hq0, div_nonneg ha hq0.le, (div_fin F hq0.ne').symm.trans h⟩

theorem scale_nonneg (F : Fmt) (hF : WorkFmt F) (qmax : Rat) (hq : 1 ≤ qmax) (a sq : Rat)
    (ha0 : 0 ≤ a) (h : F.div (.fin a) (.fin qmax) = .fin sq) : 0 ≤ sq := by
  obtain ⟨-, hz, h⟩ := quot_of_scale hq ha0 h
  exact fl_nonneg F hF hz h

theorem abs_le_of_absMax_div_le {xs : List Rat} {qmax B : Rat} (hq : 0 < qmax)
    (h : listAbsMax xs / qmax ≤ B) (x : Rat) (hx : x ∈ xs) : |x| ≤ B * qmax :=
  (le_listAbsMax xs x hx).trans ((div_le_iff₀ hq).mp h)

/-! ### the executable predicate -/

theorem specC03Slice_ok_of (F : Fmt) (qmax : Rat) (xs : List Rat) (sq : Rat) (h0 : 0 ≤ sq)
    (hz : listAbsMax xs = 0 → sq ≤ 2 * F.eta)
    (hsat : ∀ x ∈ xs, |x| ≤ sq * qmax * (1 + 2 * F.u) + F.eta * qmax)
    (hfull : sq ≤ listAbsMax xs / qmax * (1 + F.u) + 2 * F.eta) :
    specC03Slice F qmax xs (.fin sq) = .ok := by
  unfold specC03Slice
  simp only [specAmax_eq]
  rw [if_neg (not_lt.mpr h0)]
  by_cases ha : listAbsMax xs = 0
  · rw [if_pos ha, if_pos (hz ha)]
  · rw [if_neg ha]
    have hall : (xs.all fun x => decide (rabs x ≤ sq * qmax * (1 + 2 * F.u) + F.eta * qmax)) = true := by
      rw [List.all_eq_true]
      intro x hx
      rw [decide_eq_true_eq, rabs_eq]
      exact hsat x hx
    rw [hall]
    simp only [Bool.not_true, Bool.false_eq_true, if_false]
    rw [if_neg (not_lt.mpr hfull)]

/-! ### tensor level: slices and their reductions -/

theorem sliceVals_congr (t t' : T FV) (af : Bool) (k : Nat) (hs : t.shape = t'.shape)
    (hd : t.data.size = t'.data.size)
    (h : ∀ n, n < t.data.size → keyAt t.shape af n = k → t.get n = t'.get n) :
    sliceVals t af k = sliceVals t' af k := by
  unfold sliceVals
  rw [← hd, ← hs]
  apply List.filterMap_congr
  intro n hn
  rw [List.mem_range] at hn
  by_cases hk : keyAt t.shape af n = k
  · rw [if_pos hk, if_pos hk, h n hn hk]
  · rw [if_neg hk, if_neg hk]

theorem reduceSlices_shape (t : T FV) (af : Bool) (f : FV → FV → FV) :
    (reduceSlices t af f).shape = keptShape t.shape af := rfl

theorem reduceSlices_size (t : T FV) (af : Bool) (f : FV → FV → FV) :
    (reduceSlices t af f).data.size = prod (keptShape t.shape af) := T.size_ofFn _ _

theorem reduceSlices_get (t : T FV) (af : Bool) (f : FV → FV → FV) (k : Nat)
    (hk : k < prod (keptShape t.shape af)) :
    (reduceSlices t af f).get k = foldSlice f (sliceVals t af k) := T.get_ofFn _ _ _ hk

theorem absmaxScale_some (F : Fmt) (qmax : Rat) (t : T FV) (af c : Bool) :
    absmaxScale F qmax t (some af) c =
      (reduceSlices (t.map FV.abs) af FV.max).map fun r => absmaxOf F qmax c r := rfl

theorem absmaxScale_none (F : Fmt) (qmax : Rat) (t : T FV) (c : Bool) :
    absmaxScale F qmax t none c =
      ⟨[], #[absmaxOf F qmax c (reduceAll (t.map FV.abs) FV.max)]⟩ := rfl

theorem absmaxScale_get (F : Fmt) (qmax : Rat) (t : T FV) (af c : Bool) (k : Nat)
    (hk : k < prod (keptShape t.shape af)) :
    (absmaxScale F qmax t (some af) c).get k =
      absmaxOf F qmax c ((reduceSlices (t.map FV.abs) af FV.max).get k) := by
  rw [absmaxScale_some, T.get_map _ _ _ (by rw [reduceSlices_size]; exact hk)]

/-! ### `maxOptimize`: the per-slice values -/

theorem maxOptimize_get (F : Fmt) (bits : Nat) (ext : Bool) (m : T FV) (af : Bool) (k : Nat)
    (hk : k < prod (keptShape m.shape af)) :
    let p := extendRange ext ((reduceSlices m af FV.min).get k) ((reduceSlices m af FV.max).get k)
    (maxOptimize F bits ext m af).scale.get k = maxOptScale F bits p.1 p.2 ∧
      (maxOptimize F bits ext m af).zero.get k = maxOptZero F p.1 (maxOptScale F bits p.1 p.2) := by
  constructor <;>
  · unfold maxOptimize
    rw [T.get_eq_getElem _ _ (by simp [reduceSlices_size, hk])]
    simp

end Quanto
