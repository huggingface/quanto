/-
`PyMeta.parse (PyMeta.str v) = some v` (`meta_parse`): `toString` of an int consists of digits and `-` (no comma,
blank, bracket or `N`), so splitting the joined list at commas and trimming gives the ints back (`Int.toInt?_repr`).
-/
import Proofs.C10.Str
import Std.Data.String.ToInt
import Quanto.Serial

namespace Quanto.C10
open String

/-- characters that can occur in `toString (n : Int)` -/
def IntCh (c : Char) : Prop := c.isDigit = true ∨ c = '-'

def reprL (n : Int) : List Char := (toString n).toList

theorem reprL_eq (n : Int) :
    reprL n = if 0 ≤ n then Nat.toDigits 10 n.toNat else '-' :: Nat.toDigits 10 (-n).toNat := by
  unfold reprL
  rw [Int.toString_eq_repr, Int.repr_eq_if]
  split <;> simp [Nat.toList_repr]

theorem reprL_chars (n : Int) : ∀ c ∈ reprL n, IntCh c := by
  intro c hc
  rw [reprL_eq] at hc
  split at hc
  · exact .inl (Nat.isDigit_of_mem_toDigits (by decide) (by decide) hc)
  · rcases List.mem_cons.mp hc with rfl | h
    · exact .inr rfl
    · exact .inl (Nat.isDigit_of_mem_toDigits (by decide) (by decide) h)

theorem reprL_ne_nil (n : Int) : reprL n ≠ [] := by
  rw [reprL_eq]
  split
  · exact Nat.toDigits_ne_nil
  · exact List.cons_ne_nil _ _

theorem reprL_head (n : Int) : ∃ a t, reprL n = a :: t ∧ IntCh a := by
  obtain ⟨a, t, hat⟩ := List.exists_cons_of_ne_nil (reprL_ne_nil n)
  exact ⟨a, t, hat, reprL_chars n a (hat ▸ List.mem_cons_self ..)⟩

theorem IntCh.not_ws {c : Char} (h : IntCh c) : c.isWhitespace = false := by
  cases hw : c.isWhitespace with
  | false => rfl
  | true =>
    simp [Char.isWhitespace] at hw
    rcases hw with ((rfl | rfl) | rfl) | rfl <;> rcases h with h | h <;> revert h <;> decide

theorem IntCh.ne_of_not {c d : Char} (h : IntCh c) (hd : ¬ IntCh d) : c ≠ d := by
  rintro rfl; exact hd h

instance (c : Char) : Decidable (IntCh c) := by unfold IntCh; infer_instance

theorem dropWhile_ws_clean {l : List Char} (h : ∀ c ∈ l, c.isWhitespace = false) :
    l.dropWhile Char.isWhitespace = l := by
  cases l with
  | nil => rfl
  | cons a t => simp [List.dropWhile, h a (by simp)]

theorem trimL_clean {l : List Char} (h : ∀ c ∈ l, c.isWhitespace = false) : trimL l = l := by
  unfold trimL
  rw [dropWhile_ws_clean h, dropWhile_ws_clean (by simpa using h), List.reverse_reverse]

theorem trimL_cons_ne_nil {a : Char} (t : List Char) (ha : a.isWhitespace = false) :
    trimL (a :: t) ≠ [] := by
  unfold trimL
  rw [List.dropWhile_cons_of_neg (by simp [ha]), List.reverse_cons, List.dropWhile_append]
  split <;> simp [ha]

theorem reprL_clean (n : Int) : ∀ c ∈ reprL n, c.isWhitespace = false :=
  fun c hc => (reprL_chars n c hc).not_ws

theorem trim_toString (n : Int) : (toString n).trimAscii.toString = toString n := by
  rw [trimAscii_eq]
  show ofList (trimL (reprL n)) = _
  rw [trimL_clean (reprL_clean n)]
  exact String.ofList_toList

theorem trim_space_toString (n : Int) :
    (ofList (' ' :: reprL n)).trimAscii.toString = toString n := by
  have : trimL (' ' :: reprL n) = trimL (reprL n) := by
    unfold trimL
    rw [List.dropWhile_cons_of_pos (by decide)]
  rw [trimAscii_eq, String.toList_ofList, this, trimL_clean (reprL_clean n)]
  exact String.ofList_toList

theorem trim_empty : "".trimAscii.toString = "" := by
  rw [trimAscii_eq]; rfl

theorem toString_int_ne_empty (n : Int) : toString n ≠ "" := by
  intro h
  apply reprL_ne_nil n
  unfold reprL; rw [h]; rfl

theorem trim_ne_empty_of_reprL (s : String) (n : Int) (u : List Char) (h : s.toList = reprL n ++ u) :
    s.trimAscii.toString ≠ "" := by
  obtain ⟨a, t, hat, ha⟩ := reprL_head n
  rw [trimAscii_eq, h, hat]
  intro e
  exact trimL_cons_ne_nil _ ha.not_ws (by simpa using congrArg String.toList e)

theorem IntCh.not_comma {c : Char} (h : IntCh c) : (c == ',') = false := by
  rw [beq_eq_false_iff_ne]; exact h.ne_of_not (by decide)

theorem joinInts_cons_toList (x : Int) (xs : List Int) :
    (joinInts (x :: xs)).toList = reprL x ++ xs.flatMap (fun y => ',' :: ' ' :: reprL y) := by
  induction xs generalizing x with
  | nil => simp [joinInts, reprL]
  | cons y ys ih =>
    have ih' := ih y
    simp only [joinInts, List.map_cons] at ih' ⊢
    rw [String.intercalate_cons_cons, String.toList_append, String.toList_append, ih']
    simp [reprL]

theorem splitOnP_body (a : List Char) (ha : ∀ c ∈ a, (c == ',') = false) (xs : List Int) :
    List.splitOnP (· == ',') (a ++ xs.flatMap (fun y => ',' :: ' ' :: reprL y)) =
      a :: xs.map (fun y => ' ' :: reprL y) := by
  induction xs generalizing a with
  | nil => simpa using List.splitOnP_eq_singleton ha
  | cons y ys ih =>
    simp only [List.flatMap_cons, List.map_cons]
    rw [List.cons_append, List.splitOnP_append_cons_of_forall_mem ha ',' (by decide)]
    have := ih (' ' :: reprL y) (by
      intro c hc
      simp at hc
      rcases hc with rfl | hc
      · decide
      · exact (reprL_chars y c hc).not_comma)
    simpa using this

theorem splitOn_joinInts_cons (x : Int) (xs : List Int) :
    (joinInts (x :: xs)).splitOn "," =
      toString x :: xs.map (fun y => ofList (' ' :: reprL y)) := by
  rw [splitOn_comma, joinInts_cons_toList,
    splitOnP_body _ (fun c hc => (reprL_chars x c hc).not_comma)]
  simp [reprL, Function.comp_def]

/-- what `parseIntsCsv` does with the comma separated pieces: blank ones are dropped, the others are read as ints -/
def parsePieces (ps : List String) : Option (List Int) :=
  (ps.filter (fun t => t.trimAscii.toString ≠ "")).mapM fun t => t.trimAscii.toString.toInt?

theorem parseIntsCsv_eq (s : String) :
    parseIntsCsv s = if s.trimAscii.toString = "" then some [] else parsePieces (s.splitOn ",") := rfl

theorem parsePieces_cons_int {p : String} {y : Int} (hp : p.trimAscii.toString = toString y)
    {rest : List String} {ys : List Int} (hr : parsePieces rest = some ys) :
    parsePieces (p :: rest) = some (y :: ys) := by
  have hf : decide (p.trimAscii.toString ≠ "") = true :=
    decide_eq_true (hp ▸ toString_int_ne_empty y)
  rw [parsePieces, List.filter_cons_of_pos (p := fun t : String => decide (t.trimAscii.toString ≠ "")) hf,
    List.mapM_cons, hp, Int.toString_eq_repr, Int.toInt?_repr]
  rw [parsePieces] at hr
  rw [hr]
  rfl

theorem parsePieces_cons_blank {p : String} (hp : p.trimAscii.toString = "") (rest : List String) :
    parsePieces (p :: rest) = parsePieces rest := by
  have hf : ¬ (decide (p.trimAscii.toString ≠ "") = true) := by rw [hp]; decide
  rw [parsePieces, List.filter_cons_of_neg (p := fun t : String => decide (t.trimAscii.toString ≠ "")) hf]
  rfl

theorem parsePieces_spaced (ys : List Int) :
    parsePieces (ys.map fun y => ofList (' ' :: reprL y)) = some ys := by
  induction ys with
  | nil => rfl
  | cons y ys ih => exact parsePieces_cons_int (trim_space_toString y) ih

theorem parseIntsCsv_of_pieces (s : String) (x : Int) (rest : List String) (ys : List Int)
    (hne : s.trimAscii.toString ≠ "") (hs : s.splitOn "," = toString x :: rest)
    (hr : parsePieces rest = some ys) : parseIntsCsv s = some (x :: ys) := by
  rw [parseIntsCsv_eq, if_neg hne, hs]
  exact parsePieces_cons_int (trim_toString x) hr

theorem parseIntsCsv_joinInts (l : List Int) : parseIntsCsv (joinInts l) = some l := by
  cases l with
  | nil =>
    have : joinInts [] = "" := by simp [joinInts]
    rw [parseIntsCsv_eq, this, if_pos trim_empty]
  | cons x xs =>
    exact parseIntsCsv_of_pieces _ x _ xs (trim_ne_empty_of_reprL _ x _ (joinInts_cons_toList x xs))
      (splitOn_joinInts_cons x xs) (parsePieces_spaced xs)

theorem parseIntsCsv_single_trailing (x : Int) : parseIntsCsv (toString x ++ ",") = some [x] := by
  refine parseIntsCsv_of_pieces _ x [""] [] (trim_ne_empty_of_reprL _ x [','] String.toList_append) ?_ ?_
  · rw [splitOn_comma, String.toList_append]
    show List.map ofList (List.splitOnP (· == ',') (reprL x ++ [','])) = _
    rw [List.splitOnP_append_cons_of_forall_mem
      (fun c hc => (reprL_chars x c hc).not_comma) ',' (by decide)]
    simp [reprL]
  · exact parsePieces_cons_blank trim_empty []

theorem endsWith_iff (s pat : String) : s.endsWith pat = true ↔ pat.toList <:+ s.toList := by
  rw [String.endsWith_eq_endsWith_toSlice, String.Slice.endsWith_string_iff]
  simp

theorem inner_toString (o c b : String) (ho : o.toList.length = 1) (hc : c.toList.length = 1) :
    (((o ++ b ++ c).drop 1).dropEnd 1).toString = b := by
  apply String.toList_inj.mp
  show (((o ++ b ++ c).drop 1).dropEnd 1).copy.toList = _
  rw [String.Slice.toList_copy_dropEnd, String.toList_copy_drop]
  simp only [String.toList_append]
  obtain ⟨oc, hoc⟩ := List.length_eq_one_iff.mp ho
  obtain ⟨cc, hcc⟩ := List.length_eq_one_iff.mp hc
  rw [hoc, hcc]
  simp

theorem toString_int_not_startsWith (n : Int) (d : Char) (hd : ¬ IntCh d) :
    (toString n).startsWith (String.singleton d) = false := by
  obtain ⟨a, t, hat, ha⟩ := reprL_head n
  rw [Bool.eq_false_iff]
  intro h
  rw [startsWith_string_iff, show (toString n).toList = a :: t from hat] at h
  simp at h
  exact ha.ne_of_not hd h.symm

theorem toString_int_ne_None (n : Int) : toString n ≠ "None" := fun h =>
  Bool.eq_false_iff.mp (h ▸ toString_int_not_startsWith n 'N' (by decide))
    (startsWith_string_iff.mpr (by decide))

theorem ne_of_head?_ne {s t : String} (h : s.toList.head? ≠ t.toList.head?) : s ≠ t := by
  rintro rfl; exact h rfl

theorem parse_bracket_list (b : String) :
    PyMeta.parse ("[" ++ b ++ "]") = (parseIntsCsv b).map .list := by
  unfold PyMeta.parse
  have h1 : "[" ++ b ++ "]" ≠ "None" := ne_of_head?_ne (by simp)
  have h2 : ("[" ++ b ++ "]").startsWith "[" = true := by simp
  have h3 : ("[" ++ b ++ "]").endsWith "]" = true := by
    rw [endsWith_iff]; simp
  rw [if_neg h1, h2, h3, inner_toString _ _ _ (by decide) (by decide)]
  simp

theorem parse_bracket_tuple (b : String) :
    PyMeta.parse ("(" ++ b ++ ")") = (parseIntsCsv b).map .tuple := by
  unfold PyMeta.parse
  have h1 : "(" ++ b ++ ")" ≠ "None" := ne_of_head?_ne (by simp)
  have h2 : ("(" ++ b ++ ")").startsWith "[" = false := by simp
  have h3 : ("(" ++ b ++ ")").startsWith "(" = true := by simp
  have h4 : ("(" ++ b ++ ")").endsWith ")" = true := by
    rw [endsWith_iff]; simp
  rw [if_neg h1, h2, h3, h4, inner_toString _ _ _ (by decide) (by decide)]
  simp

theorem parse_int (n : Int) : PyMeta.parse (toString n) = some (.int n) := by
  unfold PyMeta.parse
  have h2 : (toString n).startsWith "[" = false :=
    toString_int_not_startsWith n '[' (by decide)
  have h3 : (toString n).startsWith "(" = false :=
    toString_int_not_startsWith n '(' (by decide)
  rw [if_neg (toString_int_ne_None n), h2, h3]
  simp [Int.toInt?_repr]

theorem meta_parse (v : PyMeta) : PyMeta.parse v.str = some v := by
  cases v with
  | int n => exact parse_int n
  | none => decide
  | list l =>
    show PyMeta.parse ("[" ++ joinInts l ++ "]") = _
    rw [parse_bracket_list, parseIntsCsv_joinInts]; rfl
  | tuple l =>
    match l with
    | [] =>
      show PyMeta.parse ("(" ++ joinInts [] ++ ")") = _
      rw [parse_bracket_tuple, parseIntsCsv_joinInts]; rfl
    | [x] =>
      show PyMeta.parse ("(" ++ toString x ++ ",)") = _
      have : "(" ++ toString x ++ ",)" = "(" ++ (toString x ++ ",") ++ ")" := by
        rw [show ",)" = "," ++ ")" from rfl]; simp [String.append_assoc]
      rw [this, parse_bracket_tuple, parseIntsCsv_single_trailing]; rfl
    | x :: y :: zs =>
      show PyMeta.parse ("(" ++ joinInts (x :: y :: zs) ++ ")") = _
      rw [parse_bracket_tuple, parseIntsCsv_joinInts]; rfl

end Quanto.C10
