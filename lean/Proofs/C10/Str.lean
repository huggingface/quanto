/-
The two library functions used by `Quanto.parseIntsCsv` that core does not specify, on `List Char`:
`s.splitOn ","` (legacy `String.splitOnAux`) is `List.splitOnP (· == ',')` (`splitOn_comma`);
the second half of the file: `s.trimAscii` is `trimL` on the characters, dropping white space at both ends (`trimAscii_eq`).
-/
import Batteries.Data.String.Lemmas

namespace Quanto.C10
open String

theorem splitOnAux_comma_of_valid (l m r : List Char) (acc : List String) :
    splitOnAux (ofList (l ++ m ++ r)) "," ⟨utf8Len l⟩ ⟨utf8Len l + utf8Len m⟩ 0 acc =
      acc.reverse ++ (List.splitOnPPrepend (· == ',') r m.reverse).map ofList := by
  unfold splitOnAux
  simp only [List.append_assoc, atEnd_iff, rawEndPos_ofList, utf8Len_append, Pos.Raw.mk_le_mk,
    Nat.add_le_add_iff_left, (by omega : utf8Len m + utf8Len r ≤ utf8Len m ↔ utf8Len r = 0),
    utf8Len_eq_zero]
  by_cases hr : r = []
  · subst hr
    simpa using extract_of_valid l m []
  · obtain ⟨c, r, rfl⟩ := r.exists_cons_of_ne_nil hr
    have hget : (0 : Pos.Raw).get "," = ',' := by decide
    have hnext : (0 : Pos.Raw).next "," = ⟨1⟩ := by decide
    have hend : ",".rawEndPos ≤ (⟨1⟩ : Pos.Raw) := by decide
    have hun0 : ∀ p : Pos.Raw, p.unoffsetBy 0 = p := fun p => by
      simp
    simp only [by
      simpa [-ofList_append] using
        (⟨get_of_valid (l ++ m) (c :: r), next_of_valid (l ++ m) c r,
            extract_of_valid l m (c :: r)⟩ :
          _ ∧ _ ∧ _), hget, hnext, hend, hun0, if_true]
    by_cases hc : c = ','
    · subst hc
      have hu : ({ byteIdx := utf8Len l + utf8Len m + (',' : Char).utf8Size } : Pos.Raw).unoffsetBy ⟨1⟩
          = ⟨utf8Len l + utf8Len m⟩ := by
        have : (',' : Char).utf8Size = 1 := by decide
        simp [Pos.Raw.ext_iff, this]
      rw [hu]
      have := extract_of_valid l m (',' :: r)
      simp only [List.append_assoc] at this
      rw [this]
      simpa [Nat.add_assoc, List.splitOnPPrepend_cons_eq_if] using
        splitOnAux_comma_of_valid (l++m++[',']) [] r ((ofList m)::acc)
    · have hc : (c == ',') = false := beq_eq_false_iff_ne.mpr hc
      simpa [List.splitOnPPrepend_cons_eq_if, hc, Nat.add_assoc] using
        splitOnAux_comma_of_valid l (m++[c]) r acc
termination_by r.length
decreasing_by all_goals (subst_vars; exact Nat.lt_succ_self _)

theorem splitOn_comma (s : String) :
    s.splitOn "," = (List.splitOnP (· == ',') s.toList).map ofList := by
  have := splitOnAux_comma_of_valid [] [] s.toList []
  simpa [splitOn] using this

theorem dropWhile_append_eq_right {α} (p : α → Bool) (a b : List α)
    (ha : a.all p = true) (hb : b.head?.any p = false) : (a ++ b).dropWhile p = b := by
  rw [List.dropWhile_append_of_pos (List.all_eq_true.mp ha)]
  cases b with
  | nil => rfl
  | cons x xs => exact List.dropWhile_cons_of_neg (by simpa using hb)

theorem slice_dropWhile_toList (s : Slice) (p : Char → Bool) :
    (s.dropWhile p).copy.toList = s.copy.toList.dropWhile p := by
  have h1 : (s.takeWhile p).copy ++ (s.dropWhile p).copy = s.copy := Slice.takeWhile_append_dropWhile
  have h2 : (s.takeWhile p).all p = true := Slice.all_takeWhile
  have h3 : (s.dropWhile p).startsWith p = false := Slice.startsWith_dropWhile
  rw [Slice.all_bool_eq] at h2
  rw [Slice.startsWith_bool_eq_head?] at h3
  rw [← h1, String.toList_append, dropWhile_append_eq_right p _ _ h2 h3]

theorem slice_dropEndWhile_toList (s : Slice) (p : Char → Bool) :
    (s.dropEndWhile p).copy.toList = (s.copy.toList.reverse.dropWhile p).reverse := by
  have h1 : (s.dropEndWhile p).copy ++ (s.takeEndWhile p).copy = s.copy := Slice.dropEndWhile_append_takeEndWhile
  have h2 : (s.takeEndWhile p).revAll p = true := Slice.revAll_takeEndWhile
  have h3 : (s.dropEndWhile p).endsWith p = false := Slice.endsWith_dropEndWhile
  rw [Slice.revAll_bool_eq] at h2
  rw [Slice.endsWith_bool_eq_getLast?] at h3
  rw [← h1, String.toList_append, List.reverse_append, dropWhile_append_eq_right p _ _ (by simpa using h2) (by simpa using h3)]
  simp

def trimL (l : List Char) : List Char :=
  ((l.dropWhile Char.isWhitespace).reverse.dropWhile Char.isWhitespace).reverse

theorem trimAscii_eq (s : String) : s.trimAscii.toString = ofList (trimL s.toList) := by
  apply String.toList_inj.mp
  show (s.toSlice.trimAsciiStart.trimAsciiEnd).copy.toList = _
  unfold Slice.trimAsciiEnd Slice.trimAsciiStart
  rw [slice_dropEndWhile_toList, slice_dropWhile_toList]
  simp [trimL]

end Quanto.C10
