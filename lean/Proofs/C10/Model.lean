/-
A whole model's state_dict is the concatenation of its modules' dicts; `load pre` reads only keys `pre ++ x` and
`save pre` writes only such keys, so modules under independent prefixes (e.g. dotted paths of different leaves) do not interfere.
-/
import Proofs.C10.Dict
namespace Quanto
open Quanto.C10

theorem load_congr (pre : String) (b : Bool) (sd sd' : StateDict)
    (h : ∀ x, sdGet sd (pre ++ x) = sdGet sd' (pre ++ x)) :
    QModuleSer.load pre b sd = QModuleSer.load pre b sd' := by
  unfold QModuleSer.load QBytesSer.unflatten QBitsSer.unflatten PackedMeta.unflatten
  simp only [String.append_assoc, h]

theorem save_keys_prefixed (pre : String) (m : QModuleSer) :
    ∀ k ∈ (m.save pre).map (·.1), ∃ x, k = pre ++ x := by
  intro k hk
  rw [QModuleSer.save_keys] at hk
  obtain ⟨x, -, rfl⟩ := List.mem_map.mp hk
  exact ⟨x, rfl⟩

theorem modelSave_nil : modelSave [] = [] := rfl

theorem modelSave_cons (pm : String × QModuleSer) (ms : List (String × QModuleSer)) :
    modelSave (pm :: ms) = pm.2.save pm.1 ++ modelSave ms := rfl

theorem modelSave_append (l1 l2 : List (String × QModuleSer)) :
    modelSave (l1 ++ l2) = modelSave l1 ++ modelSave l2 := by
  simp [modelSave]

theorem modelSave_keys (ms : List (String × QModuleSer)) :
    ∀ k ∈ (modelSave ms).map (·.1), ∃ pm ∈ ms, ∃ x, k = pm.1 ++ x := by
  intro k hk
  simp only [modelSave, List.map_flatten, List.map_map, List.mem_flatten, List.mem_map] at hk
  obtain ⟨l, ⟨pm, hpm, rfl⟩, hkl⟩ := hk
  exact ⟨pm, hpm, save_keys_prefixed pm.1 pm.2 k hkl⟩

/-- two prefixes are independent when no string extends both -/
def PrefixIndep (a b : String) : Prop := ∀ x y, a ++ x ≠ b ++ y

theorem PrefixIndep.symm {a b : String} (h : PrefixIndep a b) : PrefixIndep b a :=
  fun x y e => h y x e.symm

/-- two prefixes neither of which starts with the other never produce a common key (dotted module paths
end in '.', so this is every pair of distinct modules neither of which is an ancestor of the other) -/
theorem prefixIndep_of_not_prefix (a b : String) (h1 : ¬ a.toList <+: b.toList)
    (h2 : ¬ b.toList <+: a.toList) : PrefixIndep a b := by
  intro x y e
  have e' := congrArg String.toList e
  simp only [String.toList_append] at e'
  rcases List.append_eq_append_iff.mp e' with ⟨c, hc, _⟩ | ⟨c, hc, _⟩
  · exact h1 ⟨c, hc.symm⟩
  · exact h2 ⟨c, hc.symm⟩

theorem sdGet_modelSave (ms : List (String × QModuleSer))
    (hpre : ms.Pairwise fun a b => PrefixIndep a.1 b.1)
    (pm : String × QModuleSer) (hm : pm ∈ ms) (x : String) :
    sdGet (modelSave ms) (pm.1 ++ x) = sdGet (pm.2.save pm.1) (pm.1 ++ x) := by
  obtain ⟨l1, l2, rfl⟩ := List.append_of_mem hm
  rw [List.pairwise_append] at hpre
  obtain ⟨_, h2, h12⟩ := hpre
  rw [List.pairwise_cons] at h2
  rw [modelSave_append, modelSave_cons, sdGet_append, sdGet_append,
    sdGet_eq_none (sd := modelSave l1) fun hk => ?_, sdGet_eq_none (sd := modelSave l2) fun hk => ?_,
    Option.none_or, Option.or_none]
  · obtain ⟨pm', hpm', y, hy⟩ := modelSave_keys l2 _ hk
    exact h2.1 pm' hpm' x y hy
  · obtain ⟨pm', hpm', y, hy⟩ := modelSave_keys l1 _ hk
    exact h12 pm' hpm' pm (by simp) y x hy.symm

def dottedChars : List (List Char) → List Char
  | [] => []
  | c :: rest => c ++ '.' :: dottedChars rest

/-- the key prefix of the module at a path: every component followed by a dot (`"block.0.fc."`) -/
def dottedPrefix (p : List String) : String := String.ofList (dottedChars (p.map String.toList))

theorem dottedPrefix_nil : dottedPrefix [] = "" := rfl

theorem dottedPrefix_cons (n : String) (p : List String) :
    dottedPrefix (n :: p) = n ++ "." ++ dottedPrefix p :=
  String.toList_inj.mp (by simp [dottedPrefix, dottedChars])

theorem takeWhile_ne_dot (a r : List Char) (ha : '.' ∉ a) :
    (a ++ '.' :: r).takeWhile (· != '.') = a := by
  rw [List.takeWhile_append_of_pos (fun c hc => by simpa using fun e : c = '.' => ha (e ▸ hc))]
  simp

theorem split_at_first_dot (a b r r' : String) (ha : '.' ∉ a.toList) (hb : '.' ∉ b.toList)
    (h : a ++ "." ++ r = b ++ "." ++ r') : a = b ∧ r = r' := by
  have h' : a.toList ++ '.' :: r.toList = b.toList ++ '.' :: r'.toList := by
    simpa using congrArg String.toList h
  have hab : a.toList = b.toList := by rw [← takeWhile_ne_dot _ _ ha, h', takeWhile_ne_dot _ _ hb]
  rw [hab] at h'
  exact ⟨String.toList_inj.mp hab,
    String.toList_inj.mp (List.tail_eq_of_cons_eq (List.append_cancel_left h'))⟩

/-- components without dots: a common key under two dotted prefixes forces one path to be a prefix of the other -/
theorem dotted_common_key (p q : List String) (hp : ∀ c ∈ p, '.' ∉ c.toList)
    (hq : ∀ c ∈ q, '.' ∉ c.toList) (x y : String) (h : dottedPrefix p ++ x = dottedPrefix q ++ y) :
    p <+: q ∨ q <+: p := by
  induction p generalizing q with
  | nil => exact .inl List.nil_prefix
  | cons a p ih =>
    cases q with
    | nil => exact .inr List.nil_prefix
    | cons b q =>
      rw [dottedPrefix_cons, dottedPrefix_cons, String.append_assoc (s₁ := a ++ "."),
        String.append_assoc (s₁ := b ++ ".")] at h
      obtain ⟨rfl, hr⟩ := split_at_first_dot a b _ _ (hp a (.head _)) (hq b (.head _)) h
      exact (ih q (fun c hc => hp c (.tail _ hc)) (fun c hc => hq c (.tail _ hc)) hr).imp
        (List.prefix_cons_inj a).mpr (List.prefix_cons_inj a).mpr

end Quanto
