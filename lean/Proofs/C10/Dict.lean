/-
C10 helpers, state-dict layer: lookup lemmas for `sdGet`, the key lists of the serializers, the
well-formedness predicate of a serialized module.
-/
import Proofs.C10.Meta
namespace Quanto
open Quanto.C10

@[simp] theorem sdGet_nil (k : String) : sdGet [] k = none := rfl

@[simp] theorem sdGet_cons (k : String) (v : Leaf) (sd : StateDict) (k' : String) :
    sdGet ((k, v) :: sd) k' = if k = k' then some v else sdGet sd k' := by
  unfold sdGet
  by_cases h : k = k' <;> simp [h]

theorem sdGet_append (a b : StateDict) (k : String) :
    sdGet (a ++ b) k = (sdGet a k).or (sdGet b k) := by
  unfold sdGet
  rw [List.find?_append, Option.map_or]

theorem sdGet_eq_none {sd : StateDict} {k : String} (h : k ∉ sd.map (·.1)) : sdGet sd k = none :=
  Option.map_eq_none_iff.mpr (List.find?_eq_none.mpr fun e he => by
    simpa using fun hk : e.1 = k => h (hk ▸ List.mem_map_of_mem he))

/-- the lookups of a round trip are read off the written entries; keys are compared once, in the `Nodup` proof -/
theorem sdGet_entries {sd : StateDict} (hn : (sd.map (·.1)).Nodup) (rest : StateDict) :
    ∀ e ∈ sd, sdGet (sd ++ rest) e.1 = some e.2 := by
  induction sd with
  | nil => intro e he; cases he
  | cons e0 sd ih =>
    obtain ⟨k0, v0⟩ := e0
    rw [List.map_cons, List.nodup_cons] at hn
    intro e he
    rw [List.cons_append, sdGet_cons]
    rcases List.mem_cons.mp he with rfl | he
    · exact if_pos rfl
    · rw [if_neg (fun hk : k0 = e.1 => hn.1 (List.mem_map.mpr ⟨e, he, hk.symm⟩))]
      exact ih hn.2 e he

theorem sdGet_of_mem {sd : StateDict} (hn : (sd.map (·.1)).Nodup) {k : String} {v : Leaf}
    (h : (k, v) ∈ sd) : sdGet sd k = some v := by
  simpa using sdGet_entries hn [] _ h

theorem nodup_map_prefix (pre : String) {l : List String} (h : l.Nodup) : (l.map (pre ++ ·)).Nodup :=
  List.Pairwise.map _ (fun _ _ hab e => hab ((String.append_right_inj pre).mp e)) h

theorem mem_map_prefix (pre : String) {k : String} {l : List String} :
    pre ++ k ∈ l.map (pre ++ ·) ↔ k ∈ l :=
  ⟨fun h => by
    obtain ⟨x, hx, e⟩ := List.mem_map.mp h
    exact (String.append_right_inj pre).mp e ▸ hx, fun h => List.mem_map_of_mem h⟩

theorem QBytesSer.flatten_keys (pre : String) (q : QBytesSer) :
    (q.flatten pre).map (·.1) =
      ["_data", "_scale", "qtype", "axis", "size", "stride"].map (pre ++ ·) := rfl

theorem PackedMeta.flatten_keys (pre : String) (p : PackedMeta) :
    (p.flatten pre).map (·.1) = ["_data", "bits", "size", "stride"].map (pre ++ ·) := rfl

theorem QBitsSer.flatten_keys (pre : String) (q : QBitsSer) :
    (q.flatten pre).map (·.1) =
      ["_data._data", "_data.bits", "_data.size", "_data.stride", "_scale", "_zeropoint", "qtype", "axis",
       "group_size", "size", "stride"].map (pre ++ ·) := by
  simp only [QBitsSer.flatten, PackedMeta.flatten, List.map_cons, List.map_nil, String.append_assoc,
    String.reduceAppend, List.cons_append, List.nil_append]

theorem QModuleSer.save_keys (pre : String) (m : QModuleSer) :
    (m.save pre).map (·.1) =
      ((match m.weight with
        | .float _ => ["weight"]
        | .qbytes _ => ["weight._data", "weight._scale", "weight.qtype", "weight.axis", "weight.size",
            "weight.stride"]
        | .qbits _ => ["weight._data._data", "weight._data.bits", "weight._data.size",
            "weight._data.stride", "weight._scale", "weight._zeropoint", "weight.qtype", "weight.axis",
            "weight.group_size", "weight.size", "weight.stride"]) ++
       (if m.bias.isSome then ["bias"] else []) ++
       ["input_scale", "output_scale", "weight_qtype", "activation_qtype"]).map (pre ++ ·) := by
  simp only [QModuleSer.save, List.map_append, List.map_cons, List.map_nil]
  congr 2
  · cases m.weight with
    | float r => rfl
    | qbytes q =>
      simp only [QBytesSer.flatten_keys, List.map_cons, List.map_nil, String.append_assoc, String.reduceAppend]
    | qbits q =>
      simp only [QBitsSer.flatten_keys, List.map_cons, List.map_nil, String.append_assoc, String.reduceAppend]
  · cases m.bias <;> rfl

theorem leafMeta_str (v : PyMeta) : leafMeta (some (.str v.str)) = some v := meta_parse v

theorem metaOptInt_optInt (o : Option Int) : metaOptInt (some (optInt o)) = some o := by
  cases o <;> rfl

/-- Hypothesis of the module round trip: the recorded `weight_qtype` agrees with the kind of the
serialized weight, and no qtype is literally called `"none"` (the string that encodes
`None` in `weight_qtype` / `activation_qtype`). -/
structure QModuleSer.WellFormed (m : QModuleSer) : Prop where
  wq_ne_none : m.weightQtype ≠ some "none"
  aq_ne_none : m.activationQtype ≠ some "none"
  /-- a sub-byte packed weight (`QBitsTensor`) only with qtype ∈ {qint2, qint4} -/
  qbits : ∀ q, m.weight = .qbits q → m.weightQtype = some "qint2" ∨ m.weightQtype = some "qint4"
  /-- a `QBytesTensor` weight only with some other (8-bit) qtype name; in particular not `none` -/
  qbytes : ∀ q, m.weight = .qbytes q →
    ∃ t, m.weightQtype = some t ∧ t ≠ "qint2" ∧ t ≠ "qint4"

theorem qtStr_some (t : String) : qtStr (some t) = t := rfl

theorem strQt_qtStr (o : Option String) (h : o ≠ some "none") : strQt (qtStr o) = o := by
  cases o with
  | none => rfl
  | some s =>
    have : s ≠ "none" := fun hs => h (by rw [hs])
    simp [qtStr, strQt, this]

/-! ### concrete values used by the non-vacuity examples of `Proofs/Properties/C10.lean` -/
namespace C10

/-- a group-wise int4 weight of a 4096 × 11008 projection -/
def sampleQBits : QBitsSer :=
  { packed := { dataRef := "packed", bits := 4, size := [2048, 11008], stride := [11008, 1] },
    scaleRef := "scale", zeroRef := "zeropoint", qtype := "qint4", axis := some 0,
    groupSize := some 128, size := [4096, 11008], stride := [11008, 1] }

/-- a per-axis int8 weight -/
def sampleQBytes : QBytesSer :=
  { dataRef := "data", scaleRef := "scale", qtype := "qint8", axis := some 0,
    size := [4096, 11008], stride := [11008, 1] }

def sampleModule4 : QModuleSer :=
  { weight := .qbits sampleQBits, bias := some "bias", inputScale := "in", outputScale := "out",
    weightQtype := some "qint4", activationQtype := none }

def sampleModule8 : QModuleSer :=
  { weight := .qbytes sampleQBytes, bias := none, inputScale := "in", outputScale := "out",
    weightQtype := some "qint8", activationQtype := some "qfloat8_e4m3fn" }

theorem sampleModule4_wf : sampleModule4.WellFormed := by constructor <;> simp [sampleModule4]

theorem sampleModule8_wf : sampleModule8.WellFormed := by constructor <;> simp [sampleModule8]

end C10

end Quanto
