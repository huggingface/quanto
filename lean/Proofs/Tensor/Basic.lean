/-
`T.ofFn`, `T.get`, `T.gather`, `T.map`, `T.reshape`: what each holds; a position `a * K + b` in rows of
length `K`.  No Mathlib in this module or below it: the packing lemmas (C04) rest on it and their
statements must elaborate with core's instances.
-/
import Quanto.Tensor
namespace Quanto

theorem idx_div (a b K : Nat) (hb : b < K) : (a * K + b) / K = a := by
  rw [Nat.add_comm, Nat.add_mul_div_right _ _ (by omega), Nat.div_eq_of_lt hb, Nat.zero_add]

theorem idx_mod (a b K : Nat) (hb : b < K) : (a * K + b) % K = b := by
  rw [Nat.add_comm, Nat.add_mul_mod_self_right, Nat.mod_eq_of_lt hb]

theorem idx_lt (a b A K : Nat) (ha : a < A) (hb : b < K) : a * K + b < A * K :=
  calc a * K + b < a * K + K := Nat.add_lt_add_left hb _
    _ = (a + 1) * K := (Nat.succ_mul a K).symm
    _ ≤ A * K := Nat.mul_le_mul_right _ ha

namespace T
variable {α β γ : Type}

theorem ext {a b : T α} (hs : a.shape = b.shape) (hd : a.data = b.data) : a = b := by
  cases a; subst hs; subst hd; rfl

theorem get_of_size_le [Inhabited α] (t : T α) (i : Nat) (h : t.data.size ≤ i) :
    t.get i = default := by
  simp [T.get, h]

/-- a bound on the stored entries extends to out-of-range reads (which yield `0`) -/
theorem get_lt_all (t : T Nat) (b : Nat) (hb : 0 < b) (h : ∀ i, i < t.data.size → t.get i < b) :
    ∀ i, t.get i < b := by
  intro i
  rcases Nat.lt_or_ge i t.data.size with hi | hi
  · exact h i hi
  · rw [get_of_size_le t i hi]; exact hb

theorem shape_ofFn (s : List Nat) (f : Nat → α) : (T.ofFn s f).shape = s := rfl

theorem size_ofFn (s : List Nat) (f : Nat → α) : (T.ofFn s f).data.size = prod s := by
  simp [T.ofFn]

theorem get_ofFn [Inhabited α] (s : List Nat) (f : Nat → α) (n : Nat) (h : n < prod s) :
    (T.ofFn s f).get n = f n := by
  simp [T.ofFn, T.get, h]

theorem get_ofFn_ge [Inhabited α] (s : List Nat) (f : Nat → α) (n : Nat) (h : prod s ≤ n) :
    (T.ofFn s f).get n = default :=
  get_of_size_le _ n (by rw [size_ofFn]; exact h)

theorem get_ofFn_lt (s : List Nat) (f : Nat → Nat) (b : Nat) (hb : 0 < b)
    (h : ∀ n, n < prod s → f n < b) : ∀ i, (T.ofFn s f).get i < b :=
  get_lt_all _ b hb fun i hi => by
    rw [size_ofFn] at hi
    rw [get_ofFn _ _ _ hi]
    exact h i hi

theorem ofFn_congr (s : List Nat) (f g : Nat → α) (h : ∀ n, n < prod s → f n = g n) :
    T.ofFn s f = T.ofFn s g :=
  congrArg (fun a => T.mk s (Array.ofFn a)) (funext fun i => h i.val i.isLt)

theorem ofFn_eq [Inhabited α] (t : T α) (s : List Nat) (f : Nat → α) (hs : s = t.shape)
    (hwf : t.data.size = prod t.shape) (h : ∀ n, n < prod s → f n = t.get n) : T.ofFn s f = t := by
  subst hs
  unfold T.ofFn
  congr 1
  apply Array.ext
  · rw [Array.size_ofFn, hwf]
  · intro i h1 h2
    rw [Array.getElem_ofFn, h i (by simpa using h1)]
    simp [T.get, h2]

theorem size_gather [Inhabited α] (t : T α) (s : List Nat) (src : Nat → Nat) :
    (t.gather s src).data.size = prod s := size_ofFn _ _

theorem get_gather [Inhabited α] (t : T α) (s : List Nat) (src : Nat → Nat) (n : Nat)
    (h : n < prod s) : (t.gather s src).get n = t.get (src n) := get_ofFn _ _ _ h

theorem gather_of_id [Inhabited α] (t : T α) (s : List Nat) (src : Nat → Nat)
    (hsz : t.data.size = prod s) (h : ∀ n, n < prod s → src n = n) : t.gather s src = ⟨s, t.data⟩ :=
  ofFn_eq ⟨s, t.data⟩ s _ rfl hsz fun n hn => by rw [h n hn]; rfl

theorem gather_gather [Inhabited α] (t : T α) (s s' : List Nat) (f g : Nat → Nat)
    (h : ∀ n, n < prod s' → g n < prod s) :
    (t.gather s f).gather s' g = t.gather s' fun n => f (g n) :=
  ofFn_congr _ _ _ fun n hn => get_gather t s f _ (h n hn)

theorem shape_map (f : α → β) (t : T α) : (t.map f).shape = t.shape := rfl

theorem size_map (f : α → β) (t : T α) : (t.map f).data.size = t.data.size := by
  simp [T.map]

theorem get_map [Inhabited α] [Inhabited β] (f : α → β) (t : T α) (n : Nat)
    (h : n < t.data.size) : (t.map f).get n = f (t.get n) := by
  simp [T.map, T.get, h]

theorem map_ofFn (s : List Nat) (g : Nat → α) (f : α → β) :
    (T.ofFn s g).map f = T.ofFn s (fun n => f (g n)) := by
  unfold T.ofFn T.map
  simp only [Array.map_ofFn]
  rfl

theorem map_map (g : β → γ) (f : α → β) (t : T α) :
    (t.map f).map g = t.map (fun v => g (f v)) := by
  simp only [T.map, Array.map_map]
  rfl

theorem map_congr (f g : α → β) (t : T α) (h : ∀ v ∈ t.data, f v = g v) : t.map f = t.map g := by
  unfold T.map
  rw [Array.map_congr_left h]

theorem gather_map [Inhabited α] [Inhabited β] (t : T α) (f : α → β) (s : List Nat) (src : Nat → Nat)
    (h : ∀ n, n < prod s → src n < t.data.size) :
    (t.gather s src).map f = (t.map f).gather s src := by
  unfold T.gather
  rw [map_ofFn]
  exact ofFn_congr _ _ _ fun n hn => (get_map f t _ (h n hn)).symm

theorem size_reshape (X : T α) (s : List Nat) : (X.reshape s).data.size = X.data.size := rfl

theorem reshape_shape (X : T α) (s : List Nat) (hs : X.shape = s) : X.reshape s = X :=
  T.ext hs.symm rfl

theorem reshape_reshape (X : T α) (s s' : List Nat) : (X.reshape s).reshape s' = X.reshape s' := rfl

theorem get_reshape_lt (X : T Nat) (s : List Nat) (b : Nat) (h : ∀ i, X.get i < b) :
    ∀ i, (X.reshape s).get i < b := h

end T
end Quanto
