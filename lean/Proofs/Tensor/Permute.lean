/-
Permuting the axes of a tensor: the source map of `T.permute` stays inside the source, and
permuting by `p` and then by the inverse permutation gives the tensor back.
-/
import Proofs.Tensor.Index

namespace Quanto

/-- `pick l p` : the list whose `k`-th entry is entry `p[k]` of `l`; the model's `permuteShape` under a
name that also fits multi-indices (`permuteShape_pick`) -/
def pick (l p : List Nat) : List Nat := p.map fun k => l.getD k 0

theorem permuteShape_pick (s p : List Nat) : permuteShape s p = pick s p := rfl

theorem length_pick (l p : List Nat) : (pick l p).length = p.length := List.length_map _

theorem getD_pick (l p : List Nat) (k : Nat) (hk : k < p.length) :
    (pick l p).getD k 0 = l.getD (p.getD k 0) 0 := by
  simp [pick, hk]

theorem list_ext_getD {l l' : List Nat} (hl : l.length = l'.length)
    (h : ∀ k, k < l.length → l.getD k 0 = l'.getD k 0) : l = l' := by
  apply List.ext_getElem hl
  intro k h1 h2
  simpa [h1, h2] using h k h1

theorem idxOf?_getD {l : List Nat} {a k : Nat} (h : l.idxOf? a = some k) :
    k < l.length ∧ l.getD k 0 = a := by
  obtain ⟨hk, ha, -⟩ := List.idxOf?_eq_some_iff.1 h
  exact ⟨hk, by simp [hk, ha]⟩

theorem validIdx_pick (s i : List Nat) (h : ∀ k, k < s.length → i.getD k 0 < s.getD k 0) :
    ∀ p : List Nat, (∀ k, k ∈ p → k < s.length) → validIdx (pick s p) (pick i p)
  | [], _ => trivial
  | k :: p, hp => ⟨h k (hp k List.mem_cons_self),
      validIdx_pick s i h p fun k' hk' => hp k' (List.mem_cons_of_mem _ hk')⟩

/-- `p` and `q` are inverse permutations of the axes `0 … q.length - 1`: output axis `q[a]` of
`permute p` carries input axis `a`, and conversely.  Decidable, so `by decide` for concrete lists. -/
def InvPerm (p q : List Nat) : Prop :=
  p.length = q.length ∧ ∀ a, a < q.length →
    p.idxOf? a = some (q.getD a 0) ∧ q.idxOf? a = some (p.getD a 0)

instance (p q : List Nat) : Decidable (InvPerm p q) := by unfold InvPerm; infer_instance

theorem InvPerm.pick_pick {p q : List Nat} (h : InvPerm p q) (i : List Nat)
    (hi : i.length = q.length) : pick (pick i p) q = i := by
  apply list_ext_getD (by rw [length_pick, hi])
  intro a ha
  rw [length_pick] at ha
  obtain ⟨h1, h2⟩ := idxOf?_getD (h.2 a ha).1
  rw [getD_pick _ _ _ ha, getD_pick _ _ _ h1, h2]

theorem InvPerm.mem_lt {p q : List Nat} (h : InvPerm p q) (k : Nat) (hk : k ∈ p) : k < q.length := by
  obtain ⟨j, hj, rfl⟩ := List.getElem_of_mem hk
  have := (idxOf?_getD (h.2 j (h.1 ▸ hj)).2).1
  simpa [hj] using this

/-- the source position, read through the inverse permutation: the input multi-index is the output
multi-index picked by `q` -/
theorem permuteSrc_eq (s p q : List Nat) (hl : q.length = s.length)
    (h : ∀ a, a < s.length → p.idxOf? a = some (q.getD a 0)) (n : Nat) :
    permuteSrc s p n = flat s (pick (unflat (permuteShape s p) n) q) := by
  show flat s _ = flat s _
  congr 1
  apply list_ext_getD (by simp [pick, hl])
  intro a ha
  have ha : a < s.length := by simpa using ha
  rw [getD_pick _ _ _ (hl ▸ ha)]
  simp [h a ha, ha]

theorem permuteSrc_inv (s p q : List Nat) (h : InvPerm p q) (hs : s.length = q.length) (n : Nat)
    (hn : n < prod s) :
    permuteSrc (permuteShape s p) q n < prod (permuteShape s p) ∧
      permuteSrc s p (permuteSrc (permuteShape s p) q n) = n := by
  rw [permuteShape_pick]
  have hσ : ∀ i, validIdx s i → validIdx (pick s p) (pick i p) := fun i hi =>
    validIdx_pick s i ((validIdx_iff s i).1 hi).2 p fun k hk => hs ▸ h.mem_lt k hk
  have hτ : ∀ i, validIdx s i → pick (pick i p) q = i := fun i hi =>
    h.pick_pick i (((validIdx_iff s i).1 hi).1.trans hs)
  rw [permuteSrc_eq (pick s p) q p (by rw [length_pick])
      (fun a ha => (h.2 a (by rw [length_pick, h.1] at ha; exact ha)).2),
    permuteShape_pick, h.pick_pick s hs,
    permuteSrc_eq s p q hs.symm fun a ha => (h.2 a (hs ▸ ha)).1]
  exact ⟨reindex_lt hσ hn, reindex_inv (τ := (pick · q)) hσ hτ hn⟩

theorem permuteSrc_lt (s perm : List Nat) (hp : ∀ a, a < s.length → a ∈ perm) (n : Nat)
    (hn : n < prod (permuteShape s perm)) : permuteSrc s perm n < prod s := by
  refine flat_lt _ _ ((validIdx_iff _ _).2 ⟨by simp, fun a ha => ?_⟩)
  obtain ⟨k, hk⟩ := Option.isSome_iff_exists.1 (List.isSome_idxOf?.2 (hp a ha))
  obtain ⟨hkl, hka⟩ := idxOf?_getD hk
  have h1 := unflat_getD_lt (permuteShape s perm) n k hn (by rwa [permuteShape, List.length_map])
  rw [show (permuteShape s perm).getD k 0 = s.getD a 0 by
    rw [permuteShape_pick, getD_pick _ _ _ hkl, hka]] at h1
  simpa [ha, hk] using h1

variable {α : Type} [Inhabited α]

theorem T.size_permute (X : T α) (p : List Nat) :
    (X.permute p).data.size = prod (X.permute p).shape := T.size_gather _ _ _

theorem T.get_permute_lt (X : T Nat) (p : List Nat) (b : Nat) (hb : 0 < b)
    (h : ∀ i, X.get i < b) : ∀ i, (X.permute p).get i < b :=
  T.get_ofFn_lt _ _ b hb fun _ _ => h _

theorem T.permute_permute (X : T α) (p q : List Nat) (h : InvPerm p q)
    (hr : X.shape.length = q.length) (hsz : X.data.size = prod X.shape) :
    (X.permute p).permute q = X := by
  have hshape : permuteShape (permuteShape X.shape p) q = X.shape := by
    rw [permuteShape_pick, permuteShape_pick, h.pick_pick X.shape hr]
  unfold T.permute
  refine T.ofFn_eq X _ _ hshape hsz fun n hn => ?_
  obtain ⟨h1, h2⟩ := permuteSrc_inv X.shape p q h hr n (by rw [← hshape]; exact hn)
  show (X.gather (permuteShape X.shape p) (permuteSrc X.shape p)).get
      (permuteSrc (permuteShape X.shape p) q n) = _
  rw [T.get_gather _ _ _ _ h1, h2]

end Quanto
