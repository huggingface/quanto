/-
`flat` / `unflat` are mutually inverse between the valid multi-indices of a shape and
`[0, prod shape)`; validity coordinate by coordinate (`validIdx_iff`); re-indexing through a map of
multi-indices; a trailing dimension; three axes.
-/
import Proofs.Tensor.Basic
import Mathlib.Tactic.Linarith
import Mathlib.Tactic.Ring

namespace Quanto

theorem prod_nil : prod [] = 1 := rfl
theorem prod_cons (d : Nat) (ds : List Nat) : prod (d :: ds) = d * prod ds := rfl

theorem prod_append : ∀ (a b : List Nat), prod (a ++ b) = prod a * prod b
  | [], b => by simp [prod]
  | d :: ds, b => by
      simp only [List.cons_append, prod, prod_append ds b, Nat.mul_assoc]

theorem prod_replicate_one : ∀ n : Nat, prod (List.replicate n 1) = 1
  | 0 => rfl
  | n + 1 => by simp [List.replicate_succ, prod, prod_replicate_one n]

theorem prod_eq_head_mul_tail : ∀ (s : List Nat), s ≠ [] → prod s = s.headD 0 * prod s.tail
  | [], h => absurd rfl h
  | _ :: _, _ => rfl

theorem prod_eq_dropLast_mul_getLast (s : List Nat) (h : s ≠ []) :
    prod s = prod s.dropLast * s.getLastD 0 := by
  conv_lhs => rw [← List.dropLast_concat_getLast h]
  rw [prod_append, List.getLastD_eq_getLast?, List.getLast?_eq_some_getLast h, prod_cons, prod_nil,
    Nat.mul_one, Option.getD_some]

theorem prod_pos_of_valid : ∀ (s idx : List Nat), validIdx s idx → 0 < prod s
  | [], [], _ => Nat.one_pos
  | _ :: ds, _ :: is, h => Nat.mul_pos (Nat.zero_lt_of_lt h.1) (prod_pos_of_valid ds is h.2)

theorem flat_lt : ∀ (s idx : List Nat), validIdx s idx → flat s idx < prod s
  | [], [], _ => Nat.one_pos
  | _ :: ds, _ :: is, h => idx_lt _ _ _ _ h.1 (flat_lt ds is h.2)

theorem unflat_flat : ∀ (s idx : List Nat), validIdx s idx → unflat s (flat s idx) = idx
  | [], [], _ => rfl
  | _ :: ds, _ :: is, h => by
      have h1 := flat_lt ds is h.2
      simp only [flat, unflat]
      rw [idx_div _ _ _ h1, idx_mod _ _ _ h1, unflat_flat ds is h.2]

theorem prod_tail_pos {d : Nat} {ds : List Nat} {n : Nat} (h : n < prod (d :: ds)) : 0 < prod ds :=
  Nat.pos_of_ne_zero fun h0 => by rw [prod, h0] at h; exact Nat.not_lt_zero _ h

theorem valid_unflat : ∀ (s : List Nat) (n : Nat), n < prod s → validIdx s (unflat s n)
  | [], _, _ => by simp [unflat, validIdx]
  | d :: ds, n, h => by
      have hp := prod_tail_pos h
      refine ⟨?_, valid_unflat ds _ (Nat.mod_lt _ hp)⟩
      rw [Nat.div_lt_iff_lt_mul hp]; exact h

theorem flat_unflat : ∀ (s : List Nat) (n : Nat), n < prod s → flat s (unflat s n) = n
  | [], n, h => by simp [prod] at h; simp [flat, h]
  | d :: ds, n, h => by
      have hp := prod_tail_pos h
      simp only [unflat, flat]
      rw [flat_unflat ds _ (Nat.mod_lt _ hp)]
      exact Nat.div_add_mod' n (prod ds)

theorem length_unflat : ∀ (s : List Nat) (n : Nat), (unflat s n).length = s.length
  | [], _ => rfl
  | _ :: ds, n => by simp [unflat, length_unflat ds]

theorem validIdx_iff : ∀ (s i : List Nat),
    validIdx s i ↔ i.length = s.length ∧ ∀ k, k < s.length → i.getD k 0 < s.getD k 0
  | [], [] => ⟨fun _ => ⟨rfl, fun _ hk => absurd hk (Nat.not_lt_zero _)⟩, fun _ => trivial⟩
  | [], _ :: _ => ⟨False.elim, fun h => absurd h.1 (Nat.succ_ne_zero _)⟩
  | _ :: _, [] => ⟨False.elim, fun h => absurd h.1.symm (Nat.succ_ne_zero _)⟩
  | d :: ds, j :: js => by
      simp only [validIdx, validIdx_iff ds js, List.length_cons, Nat.add_right_cancel_iff,
        Nat.forall_lt_succ_left, List.getD_cons_zero, List.getD_cons_succ]
      exact and_left_comm

theorem unflat_getD_lt (s : List Nat) (n k : Nat) (hn : n < prod s) (hk : k < s.length) :
    (unflat s n).getD k 0 < s.getD k 0 :=
  ((validIdx_iff s _).1 (valid_unflat s n hn)).2 k hk

/-! ### re-indexing through multi-indices: position `n` of shape `s` reads `flat s' (σ (unflat s n))` -/

theorem reindex_lt {s s' : List Nat} {σ : List Nat → List Nat}
    (hσ : ∀ i, validIdx s i → validIdx s' (σ i)) {n : Nat} (hn : n < prod s) :
    flat s' (σ (unflat s n)) < prod s' :=
  flat_lt _ _ (hσ _ (valid_unflat s n hn))

theorem reindex_inv {s s' : List Nat} {σ τ : List Nat → List Nat}
    (hσ : ∀ i, validIdx s i → validIdx s' (σ i)) (hτ : ∀ i, validIdx s i → τ (σ i) = i)
    {n : Nat} (hn : n < prod s) : flat s (τ (unflat s' (flat s' (σ (unflat s n))))) = n := by
  rw [unflat_flat _ _ (hσ _ (valid_unflat s n hn)), hτ _ (valid_unflat s n hn), flat_unflat s n hn]

/-! ### a trailing dimension: `view(-1, K)` -/

theorem prod_snoc (b : List Nat) (K : Nat) : prod (b ++ [K]) = prod b * K := by
  rw [prod_append]; simp [prod]

theorem flat_pair (m K i k : Nat) : flat [m, K] [i, k] = i * K + k := by
  simp [flat, prod]

theorem flat_snoc : ∀ (b idx : List Nat) (K k : Nat), validIdx b idx →
    flat (b ++ [K]) (idx ++ [k]) = flat b idx * K + k
  | [], [], K, k, _ => by simp [flat, prod]
  | d :: ds, i :: is, K, k, h => by
    simp only [List.cons_append, flat, flat_snoc ds is K k h.2, prod_snoc]
    ring

theorem validIdx_snoc : ∀ (b idx : List Nat) (K k : Nat), validIdx b idx → k < K →
    validIdx (b ++ [K]) (idx ++ [k])
  | [], [], _, _, _, hk => ⟨hk, trivial⟩
  | _ :: ds, _ :: is, K, k, h, hk => ⟨h.1, validIdx_snoc ds is K k h.2 hk⟩

theorem unflat_snoc (b : List Nat) (K i k : Nat) (hi : i < prod b) (hk : k < K) :
    unflat (b ++ [K]) (i * K + k) = unflat b i ++ [k] := by
  have hv := valid_unflat b i hi
  have hf := flat_snoc b (unflat b i) K k hv
  rw [flat_unflat b i hi] at hf
  rw [← hf]
  exact unflat_flat _ _ (validIdx_snoc b _ K k hv hk)

/-! ### three-axis special case (what `group` / `ungroup` use) -/

theorem prod3 (a b c : Nat) : prod [a, b, c] = a * b * c := by
  simp [prod, Nat.mul_assoc]

theorem unflat3 (a b c n : Nat) :
    unflat [a, b, c] n = [n / (b * c), n % (b * c) / c, n % (b * c) % c] := by
  simp [unflat, prod]

theorem flat3 (a b c i j k : Nat) : flat [a, b, c] [i, j, k] = i * (b * c) + (j * c + k) := by
  simp [flat, prod]

theorem prod3_rot (a b c : Nat) : prod [b, c, a] = a * b * c := by
  rw [prod3, Nat.mul_comm, Nat.mul_assoc]

theorem validIdx3 {A B C : Nat} {i : List Nat} (h : validIdx [A, B, C] i) :
    ∃ a b c, i = [a, b, c] ∧ a < A ∧ b < B ∧ c < C := by
  rcases i with _ | ⟨a, _ | ⟨b, _ | ⟨c, _ | ⟨d, l⟩⟩⟩⟩ <;> simp only [validIdx, and_false] at h
  exact ⟨a, b, c, rfl, h.1, h.2.1, h.2.2.1⟩

theorem T.shape_gather {α : Type} [Inhabited α] (t : T α) (s : List Nat) (src : Nat → Nat) :
    (t.gather s src).shape = s := rfl

theorem T.get_eq_getElem {α : Type} [Inhabited α] (t : T α) (n : Nat) (h : n < t.data.size) :
    t.get n = t.data[n] := by
  simp [T.get, h]

end Quanto
