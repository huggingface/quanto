/-
Broadcasting (`padShape`, `bcastDims`, `bcastShape`, `bcastIdx`, `bcastSrc`): the source position
stays inside the source; `bcastShape` against a scalar (`_nil_left`, `_nil_right`); `bcastIdx` / `bcastSrc`
of a shape against itself.  The general criterion for `bcastShape a b = some a` is `C06.bcastShape_of_compat`.
-/
import Proofs.Tensor.Index

namespace Quanto

theorem padShape_same (s t : List Nat) (h : t.length = s.length) : padShape s.length t = t := by
  simp [padShape, h]

theorem valid_bcastIdx : ∀ (ps s oi : List Nat), validIdx s oi → ps.length = s.length →
    (ps.zip s).all (fun p => decide (p.1 = p.2 ∨ p.1 = 1)) = true → validIdx ps (bcastIdx ps oi)
  | [], [], [], _, _, _ => trivial
  | d :: ds, e :: es, i :: is, hv, hl, hz => by
      simp only [List.zip_cons_cons, List.all_cons, Bool.and_eq_true, decide_eq_true_eq] at hz
      refine ⟨?_, valid_bcastIdx ds es is hv.2 (Nat.succ.inj hl) hz.2⟩
      split
      · omega
      · rcases hz.1 with h | h
        · exact h ▸ hv.1
        · contradiction

theorem length_padShape (r : Nat) (s : List Nat) (h : s.length ≤ r) : (padShape r s).length = r := by
  rw [padShape, List.length_append, List.length_replicate, Nat.sub_add_cancel h]

theorem prod_padShape (r : Nat) (s : List Nat) : prod (padShape r s) = prod s := by
  simp [padShape, prod_append, prod_replicate_one]

theorem bcastSrc_lt (s ts : List Nat) (hl : ts.length ≤ s.length)
    (hz : ((padShape s.length ts).zip s).all (fun p => decide (p.1 = p.2 ∨ p.1 = 1)) = true)
    (n : Nat) (hn : n < prod s) : bcastSrc s ts n < prod ts := by
  unfold bcastSrc
  rw [← prod_padShape s.length ts]
  exact flat_lt _ _ (valid_bcastIdx _ s _ (valid_unflat s n hn) (length_padShape _ _ hl) hz)

theorem bcastDims_ones_left : ∀ s : List Nat, bcastDims (List.replicate s.length 1) s = some s
  | [] => rfl
  | b :: bs => by
      simp only [List.length_cons, List.replicate_succ, bcastDims, bcastDims_ones_left bs]
      split_ifs with h
      · rw [h]
      · rfl

theorem bcastDims_ones_right : ∀ s : List Nat, bcastDims s (List.replicate s.length 1) = some s
  | [] => rfl
  | b :: bs => by
      simp only [List.length_cons, List.replicate_succ, bcastDims, bcastDims_ones_right bs]
      split_ifs <;> rfl

theorem bcastShape_nil_left (s : List Nat) : bcastShape [] s = some s := by
  simp [bcastShape, padShape, bcastDims_ones_left]

theorem bcastShape_nil_right (s : List Nat) : bcastShape s [] = some s := by
  simp [bcastShape, padShape, bcastDims_ones_right]

theorem bcastIdx_self : ∀ (s i : List Nat), validIdx s i → bcastIdx s i = i
  | [], [], _ => rfl
  | d :: ds, j :: js, h => by
      simp only [validIdx] at h
      simp only [bcastIdx, bcastIdx_self ds js h.2]
      split
      · congr 1; omega
      · rfl

theorem bcastSrc_self (s : List Nat) (n : Nat) (hn : n < prod s) : bcastSrc s s n = n := by
  unfold bcastSrc
  simp only [padShape, Nat.sub_self, List.replicate_zero, List.nil_append]
  rw [bcastIdx_self _ _ (valid_unflat s n hn), flat_unflat s n hn]

theorem flat_bcastIdx_ones : ∀ (k : Nat) (i : List Nat), flat (List.replicate k 1) (bcastIdx (List.replicate k 1) i) = 0
  | 0, _ => by simp [flat, bcastIdx]
  | k + 1, [] => by simp [List.replicate_succ, bcastIdx, flat]
  | k + 1, j :: js => by
      simp only [List.replicate_succ, bcastIdx, flat, if_true, Nat.zero_mul, Nat.zero_add]
      exact flat_bcastIdx_ones k js

theorem bcastSrc_nil (s : List Nat) (n : Nat) : bcastSrc s [] n = 0 := by
  unfold bcastSrc
  simp only [padShape, List.length_nil, Nat.sub_zero, List.append_nil]
  exact flat_bcastIdx_ones _ _

end Quanto
