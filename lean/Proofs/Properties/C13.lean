/-
Property C13 — leaving a `Calibration` context, normally or through an exception, restores the
global module-hook registries and the torch-function mode stack; the inference / quantization
entry points write no module state.
-/
import Quanto.Generated
import Proofs.C13.Lemmas
namespace Quanto

/-- the inference and quantization entry points contain no attribute write and no in-place call
(regenerated from the source text on every run); `freeze` writes exactly `self.weight` -/
theorem C13_no_writes_in_inference :
    (Generated.writeSets.filter (fun p => p.1 ≠ "QModuleMixin.freeze")).all (fun p => p.2.isEmpty) = true
    ∧ Generated.writeSets.lookup "QModuleMixin.freeze" = some ["self.weight"]
    ∧ Generated.writeSetsMissing = [] := by decide +kernel

/-- U1: running any well-nested trace of contexts (each exit possibly taken by an exception)
restores both hook registries and the mode stack; only the handle-id counter advances -/
theorem C13_scoped (t : Trace) (g : HookState) (hg : g.Fresh) :
    let g' := runTrace g t
    g'.preHooks = g.preHooks ∧ g'.postHooks = g.postHooks ∧ g'.modeStack = g.modeStack ∧
      g.nextId ≤ g'.nextId ∧ g'.Fresh := by
  obtain ⟨n, hn, e⟩ := runTrace_eq t g hg
  rw [e]
  exact ⟨rfl, rfl, rfl, hn, hg.mono hn⟩

/-- U1 from the initial state of a fresh interpreter -/
theorem C13_scoped_initial (t : Trace) :
    let g' := runTrace ⟨[], [], 0, []⟩ t
    g'.preHooks = [] ∧ g'.postHooks = [] ∧ g'.modeStack = [] := by
  have h := C13_scoped t ⟨[], [], 0, []⟩ ⟨nofun, nofun⟩
  exact ⟨h.1, h.2.1, h.2.2.1⟩

/-- U2: entering and immediately leaving restores everything but the id counter -/
theorem C13_exit_removes_only_own (g : HookState) (hg : g.Fresh) (c : Nat) :
    (g.enter c).1.exit (g.enter c).2 = { g with nextId := g.nextId + 2 } :=
  HookState.exit_enter hg c _

/-- U3: the event machine used by the correspondence harness computes the same states as the
structural definition, under any stack of already open contexts -/
theorem C13_events_agree (t : Trace) (g : HookState) (stack : List (Nat × Nat)) :
    (Trace.events t).foldl HookRun.step ⟨g, stack⟩ = ⟨runTrace g t, stack⟩ := by
  induction t generalizing g stack with
  | nil => rfl
  | ctx c inner next ihI ihN =>
    rw [Trace.events, List.foldl_cons, List.foldl_append, HookRun.step_enter, ihI, List.foldl_cons,
      HookRun.step_exit, ihN, runTrace_ctx]

/-- U4: after the exit of a nested context the hooks and the mode of the outer context are still installed,
and the outer exit removes them -/
theorem C13_nested_outer_present (g : HookState) (hg : g.Fresh) (a b : Nat) :
    let g1 := (g.enter a).1
    let g3 := (g1.enter b).1.exit (g1.enter b).2
    (g.nextId, a) ∈ g3.preHooks ∧ (g.nextId + 1, a) ∈ g3.postHooks ∧ g3.modeStack.head? = some a ∧
      (g3.exit (g.enter a).2).preHooks = g.preHooks ∧
      (g3.exit (g.enter a).2).postHooks = g.postHooks ∧
      (g3.exit (g.enter a).2).modeStack = g.modeStack := by
  intro g1 g3
  have e3 : g3 = { g1 with nextId := g1.nextId + 2 } :=
    C13_exit_removes_only_own g1 (HookState.enter_fresh hg a) b
  rw [e3, HookState.exit_enter hg]
  exact ⟨List.mem_append_right _ (List.mem_singleton.mpr rfl),
    List.mem_append_right _ (List.mem_singleton.mpr rfl), rfl, rfl, rfl, rfl⟩

/-! ### non-vacuity -/

/-- `with C1: (with C2: pass); with C3: pass` from a fresh interpreter: six handle ids consumed,
registries and mode stack empty again -/
example : runTrace ⟨[], [], 0, []⟩ (.ctx 1 (.ctx 2 .nil .nil) (.ctx 3 .nil .nil)) = ⟨[], [], 6, []⟩ := rfl

/-- the hypotheses of `C13_scoped` are satisfiable on a non-trivial state and its conclusion is
the concrete restored state -/
example :
    let g : HookState := ⟨[(0, 7)], [(1, 7)], 2, [7]⟩
    let g' := runTrace g (.ctx 1 (.ctx 2 .nil .nil) (.ctx 3 .nil .nil))
    g.Fresh ∧ g' = ⟨[(0, 7)], [(1, 7)], 8, [7]⟩ := by
  refine ⟨⟨by decide +kernel, by decide +kernel⟩, by decide +kernel⟩

/-- inside the nested context both owners are registered, in order -/
example : (((HookState.mk [] [] 0 []).enter 1).1.enter 2).1 =
    ⟨[(0, 1), (2, 2)], [(1, 1), (3, 2)], 4, [2, 1]⟩ := rfl

/-! ### the switch of `disable_extensions` -/

/-- whatever happened inside, leaving a `disable_extensions` context leaves the extensions enabled:
after any sequence of events that ends with an exit the switch is on (so a single, un-nested use
restores the initial state, also when an exception propagates). -/
theorem C13_disable_extensions_exit_enables (events : List Bool) (enabled : Bool) (depth : Nat) :
    (extSwitch (events ++ [false]) enabled depth).1 = true :=
  extSwitch_append_single events false enabled depth

/-- inside a context the switch is off -/
theorem C13_disable_extensions_enter_disables (events : List Bool) (enabled : Bool) (depth : Nat) :
    (extSwitch (events ++ [true]) enabled depth).1 = false :=
  extSwitch_append_single events true enabled depth

/-- observation (the statement of C13 does not cover it): the exit does not restore the *previous*
value — after `enter, enter, exit` one context is still open and the extensions are enabled again. -/
theorem C13_counterexample_nested_disable_extensions :
    extSwitch [true, true, false] = (true, 1) := rfl

end Quanto
