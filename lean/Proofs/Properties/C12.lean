/-
Property C12 — the calibrated activation scale is the moving average (momentum `m`, started by the
first batch) of the per-batch absmax scales; a quantized input's scale is adopted.  The buffer value 1
is the "not calibrated yet" sentinel: the average restarts whenever it is reached.
-/
import Quanto.Calib
import Proofs.C12.Lemmas
import Proofs.Properties.C03
import Proofs.C12.Streamline
namespace Quanto

/-- a single batch initialises the scale -/
theorem C12_first_batch (F : Fmt) (m : Rat) (x : FV) : calibFold F m [.batch x] = x :=
  updatedScale_sentinel F m x

/-! ### T1: the fold of the code is the exponential moving average of the property -/

/-- the recursive (executable) and the prefix reading of "the sentinel never interferes" agree -/
theorem C12_noSentinel_iff (F : Fmt) (m : Rat) (e : ScaleEvent) (evs : List ScaleEvent) :
    noSentinel F m (e :: evs) ↔ noSentinelFrom F m (applyEvent F m (.fin 1) e) evs = true := by
  rw [noSentinelFrom_iff]
  unfold noSentinel
  rw [forall_prefix_cons]
  exact ⟨fun h p x rest hp => h.2 p x rest hp (List.cons_ne_nil e p),
    fun h => ⟨fun _ _ hne => absurd rfl hne, fun p x rest hp _ => h p x rest hp⟩⟩

/-- generalised form: from a buffer value `s` already produced by some event -/
theorem C12_ema_acc (F : Fmt) (m : Rat) (evs : List ScaleEvent) (s : FV)
    (h : noSentinelFrom F m s evs = true) :
    emaSpec F m evs (some s) = some (calibFold F m evs s) := by
  induction evs generalizing s with
  | nil => rfl
  | cons e evs ih =>
    obtain ⟨h1, h2⟩ := (noSentinelFrom_cons F m s e evs).1 h
    rw [emaSpec_cons F m s e evs h1, calibFold_cons]
    exact ih _ h2

/-- T1: whenever no batch meets the sentinel value after the first event, the scale computed by
the code is the property's moving average -/
theorem C12_ema (F : Fmt) (m : Rat) (evs : List ScaleEvent) (hne : evs ≠ [])
    (h : noSentinel F m evs) : emaSpec F m evs none = some (calibFold F m evs) := by
  cases evs with
  | nil => exact absurd rfl hne
  | cons e evs =>
    rw [emaSpec_cons_none, calibFold_cons]
    exact C12_ema_acc F m evs _ ((C12_noSentinel_iff F m e evs).1 h)

/-! ### T2: adopted scales -/

/-- a module fed an already quantized tensor adopts that tensor's scale, whatever happened before -/
theorem C12_adopt (F : Fmt) (m : Rat) (evs : List ScaleEvent) (s : FV) (init : FV := .fin 1) :
    calibFold F m (evs ++ [.adopt s]) init = s :=
  calibFold_adopt F m evs [] s init

/-- after an adopt of `s ≠ 1` the following batch is averaged from `s` -/
theorem C12_adopt_then_batches (F : Fmt) (m : Rat) (evs : List ScaleEvent) (s x : FV)
    (hs : s ≠ .fin 1) (init : FV := .fin 1) :
    calibFold F m (evs ++ [.adopt s, .batch x]) init = emaStep F m s x :=
  (calibFold_adopt F m evs [.batch x] s init).trans (updatedScale_of_ne F m hs x)

/-- (recorded finding, adopt flavour) an adopted scale equal to 1 is forgotten by the next batch -/
theorem C12_adopt_one_then_batch (F : Fmt) (m : Rat) (evs : List ScaleEvent) (x : FV)
    (init : FV := .fin 1) :
    calibFold F m (evs ++ [.adopt (.fin 1), .batch x]) init = x :=
  (calibFold_adopt F m evs [.batch x] (.fin 1) init).trans (updatedScale_sentinel F m x)

/-! ### T3: momentum 0 -/

/-- with momentum 0 the scale is the last batch's range, exactly -/
theorem C12_momentum_zero (F : Fmt) (hF : WorkFmt F) (sq xq : Rat) (hx : F.Rep xq)
    (hm : |xq| ≤ F.maxFin) : emaStep F 0 (.fin sq) (.fin xq) = .fin xq := by
  rw [emaStep_fin, rndFin_zero, sub_zero, rndFin_one f64 (by decide) (by decide),
    rndFin_one f32 (by decide) (by decide), zero_mul, mul_one,
    fl_zero F hF, fl_of_rep F hF hx hm, add_fin, zero_add, fl_of_rep F hF hx hm]

/-- the fold with momentum 0 returns the last batch -/
theorem C12_momentum_zero_fold (F : Fmt) (hF : WorkFmt F) (evs : List ScaleEvent) (sq xq : Rat)
    (hs : calibFold F 0 evs = .fin sq) (hx : F.Rep xq) (hm : |xq| ≤ F.maxFin) :
    calibFold F 0 (evs ++ [.batch (.fin xq)]) = .fin xq := by
  rw [calibFold_append, hs]
  by_cases h1 : FV.fin sq = .fin 1
  · exact h1 ▸ updatedScale_sentinel F 0 _
  · exact (updatedScale_of_ne F 0 h1 _).trans (C12_momentum_zero F hF sq xq hx hm)

/-! ### T4: the sentinel defect -/

/-- (recorded finding) a first batch whose scale is exactly 1 (an int8 batch with absmax 127) is
forgotten: the next batch restarts the average instead of being averaged with it -/
theorem C12_counterexample_sentinel :
    calibFold f32 ((8106479329266893 : Rat) / 9007199254740992) [.batch (.fin 1), .batch (.fin 2)]
      = .fin 2 ∧
    emaSpec f32 ((8106479329266893 : Rat) / 9007199254740992) [.batch (.fin 1), .batch (.fin 2)] none
      ≠ some (.fin 2) := by
  decide +kernel

/-! ### T5: one step is a convex combination up to rounding -/

/-- T5: for a momentum in `[0,1]` and non-negative finite scales, a finite result of one update
lies between the smaller and the larger of the old scale and the batch scale, up to a relative
error `4u` and an absolute error `4η` (no magnitude guard is needed: a finite result forces finite
intermediate products) -/
theorem C12_ema_between (F : Fmt) (hF : WorkFmt F) (m : Rat) (hm0 : 0 ≤ m) (hm1 : m ≤ 1)
    (s x y : Rat) (hs : 0 ≤ s) (hx : 0 ≤ x) (h : emaStep F m (.fin s) (.fin x) = .fin y) :
    min s x * (1 - 4 * F.u) - 4 * F.eta ≤ y ∧ y ≤ max s x * (1 + 4 * F.u) + 4 * F.eta := by
  rw [emaStep_fin] at h
  obtain ⟨ha, hb, hab⟩ := weights_bounds m hm0 hm1
  exact comb_round_between F.u_nonneg (hu := (le_div_iff₀' (by norm_num)).mp (u_eta_work F hF).1)
    F.eta_nonneg (hk := weight_err_le F hF) ha hb hab
    (hlo := le_min hs hx) (h1 := min_le_left s x) (h2 := min_le_right s x)
    (h3 := le_max_left s x) (h4 := le_max_right s x)
    (h := add_fl_fl_err F hF (mul_nonneg ha hs) (mul_nonneg hx hb) h)

/-! ### T6: after a single batch nothing saturates -/

/-- T6: if the only batch has values `xs`, the scale after it is the (clamped) absmax scale of
`xs`, and no element of the batch exceeds the representable range `sq·qmax` by more than rounding -/
theorem C12_single_batch_no_saturation (F : Fmt) (hF : WorkFmt F) (m : Rat) (qmax : Rat)
    (hq : 1 ≤ qmax) (xs : List Rat) (sq : Rat)
    (h : calibFold F m [.batch (absmaxOf F qmax true (.fin (listAbsMax xs)))] = .fin sq) :
    ∀ x ∈ xs, |x| ≤ sq * qmax * (1 + 2 * F.u) + F.eta * qmax := by
  rw [C12_first_batch] at h
  exact C03_nonsaturating_clamped F hF qmax hq xs sq h

/-! ### which modules keep quantized activations (streamlining) -/

/-- after any sequence of intercepted function calls, starting from the empty table, a module
is marked "quantized activations required" exactly when some call that passed the gate (`qinput`: `types`
holds the class `QTensor`) took its output and returned a quantized tensor. -/
theorem C12_streamline_required_iff (cs : List FnCall) (k : Nat) :
    (recordCalls [] cs).get k = requiredBy cs k := by
  rw [get_recordCalls]; simp [QActTable.get]

/-- the mark is monotone — once required, later calls (whatever they return) keep it. -/
theorem C12_streamline_monotone (t : QActTable) (cs : List FnCall) (k : Nat) (h : t.get k = true) :
    (recordCalls t cs).get k = true := by
  rw [get_recordCalls, h]; rfl

/-- the children disabled at the end of the parent's forward are exactly its children that no
call required — in particular the result does not depend on the order of the calls. -/
theorem C12_streamline_disabled_iff (cs : List FnCall) (children : List Nat) (c : Nat) :
    c ∈ disabledChildren (recordCalls [] cs) children ↔ c ∈ children ∧ requiredBy cs c = false := by
  simp [disabledChildren, C12_streamline_required_iff]

theorem C12_streamline_order_independent (cs cs' : List FnCall) (hp : cs.Perm cs') (children : List Nat) :
    disabledChildren (recordCalls [] cs) children = disabledChildren (recordCalls [] cs') children := by
  unfold disabledChildren
  apply List.filter_congr
  intro c _
  rw [C12_streamline_required_iff, C12_streamline_required_iff]
  unfold requiredBy
  rw [hp.any_eq]

/-- the code as it is: `qinput = QTensor in types` tests the class `QTensor` itself.  The
arguments quanto hands to torch functions are `QBytesTensor` / `QBitsTensor` instances, whose class
is not `QTensor`: such calls record nothing, so that with streamlining every child that has
quantized activations is disabled at the end of its parent's forward, whatever consumed its output. -/
theorem C12_streamline_subclass_arguments_record_nothing (cs : List FnCall)
    (h : ∀ c ∈ cs, "QTensor" ∉ c.types) (children : List Nat) :
    disabledChildren (recordCalls [] cs) children = children := by
  unfold disabledChildren
  rw [List.filter_eq_self]
  intro c _
  rw [C12_streamline_required_iff]
  unfold requiredBy
  simp only [Bool.not_eq_true', List.any_eq_false]
  intro call hc
  have : call.qinput = false := by
    unfold FnCall.qinput
    simpa using h call hc
  simp [this]

/-- non-vacuity: module 1 feeds a function that returns a quantized tensor, module 2 only functions
that return plain tensors, module 3 feeds nothing: 2 and 3 are disabled -/
example : disabledChildren (recordCalls [] [⟨[1], true, ["QTensor"]⟩, ⟨[2], false, ["QTensor"]⟩, ⟨[1, 2], false, ["QTensor"]⟩]) [1, 2, 3] = [2, 3] := by
  decide

/-- the same calls with the classes quanto's tensors really have: everything is disabled -/
example : disabledChildren (recordCalls [] [⟨[1], true, ["QBytesTensor"]⟩, ⟨[2], false, ["QBytesTensor"]⟩]) [1, 2, 3] = [1, 2, 3] :=
  C12_streamline_subclass_arguments_record_nothing _ (by decide) _

/-! ### non-vacuity -/

/-- T1 on a concrete three-batch history in float16 with momentum 0.9 (as a double): the
hypotheses hold and both sides are the float16 number 2037/4096 -/
example :
    let m : Rat := (8106479329266893 : Rat) / 9007199254740992
    let evs : List ScaleEvent := [.batch (.fin (1 / 2)), .batch (.fin (3 / 4)), .batch (.fin (1 / 4))]
    noSentinel f16 m evs ∧ emaSpec f16 m evs none = some (calibFold f16 m evs) ∧
      calibFold f16 m evs = .fin (2037 / 4096) := by
  intro m evs
  have hns : noSentinel f16 m evs := by
    rw [C12_noSentinel_iff]; decide +kernel
  exact ⟨hns, C12_ema f16 m evs (by simp [evs]) hns, by decide +kernel⟩

/-- T5 on a concrete step: 1075/2048 lies between 1/2 and 3/4 (up to rounding) -/
example : emaStep f16 ((8106479329266893 : Rat) / 9007199254740992) (.fin (1 / 2)) (.fin (3 / 4))
    = .fin (1075 / 2048) := by decide +kernel

/-- T3 on a concrete step in bfloat16 -/
example : emaStep bf16 0 (.fin 5) (.fin (3 / 4)) = .fin (3 / 4) :=
  C12_momentum_zero bf16 (by simp [WorkFmt]) 5 (3 / 4) ⟨3, -2, by norm_num, by norm_num [bf16], by decide⟩
    (le_trans (by norm_num) (work_maxFin_ge bf16 (by decide)))

end Quanto
