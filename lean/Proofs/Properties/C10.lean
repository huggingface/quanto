/-
C10 — serialization round trip.

"The state_dict of any quantized model contains only plain tensors and strings; loading it yields
a model with identical weight codes, scales, zero-points, qtypes and activation scales; saving
again gives an equal state_dict."
-/
import Proofs.C10.Model
namespace Quanto
open Quanto.C10

/-! ### T1/T2 : the metadata strings -/

/-- digit level fact: Python/Lean `str` of an int is read back as the same int -/
theorem C10_int_roundtrip (n : Int) : (toString n).toInt? = some n :=
  Int.toInt?_repr n

theorem C10_none_roundtrip : PyMeta.parse PyMeta.none.str = some .none := by decide +kernel

/-- `ast.literal_eval (str v) = v` for every int, `None`, every list and every tuple of ints
(including `[]`, `()` and the one-element tuple `(x,)`) -/
theorem C10_meta_parse (v : PyMeta) : PyMeta.parse v.str = some v := meta_parse v

/-! ### T3 : key sets -/

/-- key comparison reduces to comparing the suffixes after the common prefix -/
theorem C10_key_inj (pre a b : String) : pre ++ a = pre ++ b ↔ a = b :=
  String.append_right_inj pre

theorem C10_keys_distinct_qbytes (pre : String) (q : QBytesSer) :
    ((q.flatten pre).map (·.1)).Nodup := by
  rw [QBytesSer.flatten_keys]; exact nodup_map_prefix pre (by simp)

theorem C10_keys_distinct_packed (pre : String) (p : PackedMeta) :
    ((p.flatten pre).map (·.1)).Nodup := by
  rw [PackedMeta.flatten_keys]; exact nodup_map_prefix pre (by simp)

theorem C10_keys_distinct_qbits (pre : String) (q : QBitsSer) :
    ((q.flatten pre).map (·.1)).Nodup := by
  rw [QBitsSer.flatten_keys]; exact nodup_map_prefix pre (by simp)

/-! ### T4 : tensor-level round trips -/

theorem C10_qbytes_roundtrip_append (pre : String) (q : QBytesSer) (rest : StateDict) :
    QBytesSer.unflatten pre (q.flatten pre ++ rest) = some q := by
  have H := sdGet_entries (C10_keys_distinct_qbytes pre q) rest
  generalize q.flatten pre ++ rest = sd at H
  simp only [QBytesSer.flatten, List.forall_mem_cons] at H
  simp only [QBytesSer.unflatten, H, leafTensor, leafMeta_str, metaOptInt_optInt, metaList]
  rfl

theorem C10_qbytes_roundtrip (pre : String) (q : QBytesSer) :
    QBytesSer.unflatten pre (q.flatten pre) = some q := by
  simpa using C10_qbytes_roundtrip_append pre q []

theorem C10_packed_roundtrip_append (pre : String) (p : PackedMeta) (rest : StateDict) :
    PackedMeta.unflatten pre (p.flatten pre ++ rest) = some p := by
  have H := sdGet_entries (C10_keys_distinct_packed pre p) rest
  generalize p.flatten pre ++ rest = sd at H
  simp only [PackedMeta.flatten, List.forall_mem_cons] at H
  simp only [PackedMeta.unflatten, H, leafTensor, leafMeta_str, metaList]
  simp

theorem C10_packed_roundtrip (pre : String) (p : PackedMeta) :
    PackedMeta.unflatten pre (p.flatten pre) = some p := by
  simpa using C10_packed_roundtrip_append pre p []

theorem C10_qbits_roundtrip_append (pre : String) (q : QBitsSer) (rest : StateDict) :
    QBitsSer.unflatten pre (q.flatten pre ++ rest) = some q := by
  have H := sdGet_entries (C10_keys_distinct_qbits pre q) rest
  have hp : PackedMeta.unflatten (pre ++ "_data.") (q.flatten pre ++ rest) = some q.packed := by
    rw [QBitsSer.flatten, List.append_assoc]
    exact C10_packed_roundtrip_append _ _ _
  generalize q.flatten pre ++ rest = sd at H hp
  simp only [QBitsSer.flatten, List.forall_mem_append, List.forall_mem_cons] at H
  simp only [QBitsSer.unflatten, hp, H.2, leafTensor, leafMeta_str, metaOptInt_optInt, metaList]
  rfl

theorem C10_qbits_roundtrip (pre : String) (q : QBitsSer) :
    QBitsSer.unflatten pre (q.flatten pre) = some q := by
  simpa using C10_qbits_roundtrip_append pre q []


/-! ### T5/T6 : module level -/

theorem C10_keys_distinct_module (pre : String) (m : QModuleSer) :
    ((m.save pre).map (·.1)).Nodup := by
  rw [QModuleSer.save_keys, List.append_assoc]
  -- it suffices to look at the keys with the bias entry present
  refine nodup_map_prefix pre (List.Nodup.sublist (List.Sublist.append_left (l₂ := ["bias",
    "input_scale", "output_scale", "weight_qtype", "activation_qtype"]) ?_ _) ?_)
  · split
    · exact List.Sublist.refl _
    · exact List.sublist_cons_self _ _
  · cases m.weight <;> simp

/-- what the module-level lookups find in a saved module -/
theorem C10_module_lookup (pre : String) (m : QModuleSer) :
    sdGet (m.save pre) (pre ++ "weight_qtype") = some (.str (qtStr m.weightQtype)) ∧
    sdGet (m.save pre) (pre ++ "activation_qtype") = some (.str (qtStr m.activationQtype)) ∧
    sdGet (m.save pre) (pre ++ "input_scale") = some (.tensor m.inputScale) ∧
    sdGet (m.save pre) (pre ++ "output_scale") = some (.tensor m.outputScale) ∧
    sdGet (m.save pre) (pre ++ "bias") = m.bias.map .tensor ∧
    sdGet (m.save pre) (pre ++ "weight") =
      (match m.weight with | .float r => some (.tensor r) | _ => none) := by
  have hn := C10_keys_distinct_module pre m
  have hk := QModuleSer.save_keys pre m
  refine ⟨sdGet_of_mem hn ?_, sdGet_of_mem hn ?_, sdGet_of_mem hn ?_, sdGet_of_mem hn ?_, ?_, ?_⟩
  iterate 4 exact List.mem_append_right _ (by simp only [List.mem_cons, eq_self, true_or, or_true])
  · cases hb : m.bias with
    | none => exact sdGet_eq_none (by rw [hk, hb, mem_map_prefix]; cases m.weight <;> simp)
    | some b =>
      exact sdGet_of_mem hn (by
        simp only [QModuleSer.save, hb, List.mem_append, List.mem_cons, eq_self, true_or, or_true])
  · cases hw : m.weight with
    | float r =>
      exact sdGet_of_mem hn (by
        simp only [QModuleSer.save, hw, List.mem_append, List.mem_cons, eq_self, true_or])
    | qbytes q => exact sdGet_eq_none (by rw [hk, hw, mem_map_prefix]; cases m.bias <;> simp)
    | qbits q => exact sdGet_eq_none (by rw [hk, hw, mem_map_prefix]; cases m.bias <;> simp)

theorem C10_qtStr_strQt (s : String) : qtStr (strQt s) = s := by
  unfold strQt
  split
  · next h => rw [h]; rfl
  · rfl

theorem C10_qbytes_unflatten_none (pre : String) (sd : StateDict)
    (h : sdGet sd (pre ++ "_data") = none) : QBytesSer.unflatten pre sd = none := by
  rw [QBytesSer.unflatten, h]; rfl

theorem C10_qbits_unflatten_none (pre : String) (sd : StateDict)
    (h : sdGet sd (pre ++ "_data." ++ "_data") = none) : QBitsSer.unflatten pre sd = none := by
  rw [QBitsSer.unflatten, PackedMeta.unflatten, h]; rfl

/-- the weight entries of a saved module are read back by the tensor class that wrote them and by no other -/
theorem C10_module_weight (pre : String) (m : QModuleSer) :
    (∀ q, m.weight = .qbytes q →
      QBytesSer.unflatten (pre ++ "weight.") (m.save pre) = some q ∧
      QBitsSer.unflatten (pre ++ "weight.") (m.save pre) = none) ∧
    (∀ q, m.weight = .qbits q →
      QBitsSer.unflatten (pre ++ "weight.") (m.save pre) = some q ∧
      QBytesSer.unflatten (pre ++ "weight.") (m.save pre) = none) := by
  have hk := QModuleSer.save_keys pre m
  constructor <;> intro q hq <;> rw [hq] at hk <;> constructor
  · simp only [QModuleSer.save, hq, List.append_assoc]
    exact C10_qbytes_roundtrip_append _ _ _
  · exact C10_qbits_unflatten_none _ _
      (sdGet_eq_none (by
        rw [hk, String.append_assoc, String.append_assoc, mem_map_prefix]; cases m.bias <;> simp))
  · simp only [QModuleSer.save, hq, List.append_assoc]
    exact C10_qbits_roundtrip_append _ _ _
  · exact C10_qbytes_unflatten_none _ _
      (sdGet_eq_none (by rw [hk, String.append_assoc, mem_map_prefix]; cases m.bias <;> simp))

/-- what `_load_from_state_dict` makes of a saved module: the weight is read back by the class that
`weight_qtype` selects, the bias if the target has one, the qtypes through their `"none"` encoding -/
theorem C10_load_save (pre : String) (m : QModuleSer) (b : Bool) :
    QModuleSer.load pre b (m.save pre) =
      (match m.weight, strQt (qtStr m.weightQtype) with
        | .float r, _ => some (WeightSer.float r)
        | .qbytes q, some t => if t = "qint2" ∨ t = "qint4" then none else some (.qbytes q)
        | .qbits q, some t => if t = "qint2" ∨ t = "qint4" then some (.qbits q) else none
        | _, none => none).bind fun w =>
      if b then m.bias.bind fun bi =>
        some ⟨w, some bi, m.inputScale, m.outputScale, strQt (qtStr m.weightQtype),
          strQt (qtStr m.activationQtype)⟩
      else some ⟨w, none, m.inputScale, m.outputScale, strQt (qtStr m.weightQtype),
        strQt (qtStr m.activationQtype)⟩ := by
  obtain ⟨hby, hbi⟩ := C10_module_weight pre m
  have hlt : leafTensor (m.bias.map Leaf.tensor) = m.bias := by cases m.bias <;> rfl
  have hlt' : ∀ r, leafTensor (some (Leaf.tensor r)) = some r := fun _ => rfl
  simp only [QModuleSer.load, C10_module_lookup pre m, hlt, hlt', Option.bind_eq_bind, Option.bind_some,
    Option.pure_def, Option.bind_map, Function.comp_def]
  cases hw : m.weight with
  | float r => rfl
  | qbytes q =>
    obtain ⟨h1, h2⟩ := hby q hw
    rw [h1, h2]
    cases strQt (qtStr m.weightQtype) with
    | none => rfl
    | some t => by_cases ht : t = "qint2" ∨ t = "qint4" <;> simp only [ht, if_true, if_false] <;> rfl
  | qbits q =>
    obtain ⟨h1, h2⟩ := hbi q hw
    rw [h1, h2]
    cases strQt (qtStr m.weightQtype) with
    | none => rfl
    | some t => by_cases ht : t = "qint2" ∨ t = "qint4" <;> simp only [ht, if_true, if_false] <;> rfl

/-- loading what was saved gives the same module back: identical weight (codes, scale,
zero-point, qtype, axis, group size, size, stride), bias, activation scales and qtypes -/
theorem C10_module_roundtrip (pre : String) (m : QModuleSer) (wf : m.WellFormed) :
    QModuleSer.load pre m.bias.isSome (m.save pre) = some m := by
  obtain ⟨hwq, haq, hbits, hbytes⟩ := wf
  rw [C10_load_save, strQt_qtStr _ hwq, strQt_qtStr _ haq]
  cases m with | mk w b i o wq aq =>
  cases w with
  | float r => cases b <;> rfl
  | qbytes q =>
    obtain ⟨t, rfl, ht2, ht4⟩ := hbytes q rfl
    simp only [if_neg (not_or.mpr ⟨ht2, ht4⟩)]
    cases b <;> rfl
  | qbits q =>
    obtain ⟨t, rfl, ht⟩ : ∃ t, wq = some t ∧ (t = "qint2" ∨ t = "qint4") := by
      rcases hbits q rfl with h | h <;> exact ⟨_, h, by simp⟩
    simp only [if_pos ht]
    cases b <;> rfl

/-- load then save reproduces the state_dict -/
theorem C10_resave (pre : String) (m : QModuleSer) (wf : m.WellFormed) (m' : QModuleSer)
    (h : QModuleSer.load pre m.bias.isSome (m.save pre) = some m') :
    m'.save pre = m.save pre := by
  rw [C10_module_roundtrip pre m wf] at h
  cases h; rfl

/-- whenever loading a saved module succeeds (into a module whose bias-presence is not *less* than the
saved one), saving the result reproduces the state_dict exactly; no well-formedness is assumed. -/
theorem C10_resave_strong (pre : String) (m : QModuleSer) (b : Bool) (m' : QModuleSer)
    (hb : b = false → m.bias = none)
    (h : QModuleSer.load pre b (m.save pre) = some m') :
    m'.save pre = m.save pre := by
  rw [C10_load_save] at h
  obtain ⟨w, hw, h⟩ := Option.bind_eq_some_iff.mp h
  -- every successful branch returns the weight itself
  have hw' : m.weight = w := by
    split at hw
    next _ _ r hmw => cases hw; exact hmw
    next _ _ q t hmw _ => split at hw <;> cases hw; exact hmw
    next _ _ q t hmw _ => split at hw <;> cases hw; exact hmw
    next => cases hw
  have hm' : m' = ⟨m.weight, m.bias, m.inputScale, m.outputScale, strQt (qtStr m.weightQtype),
      strQt (qtStr m.activationQtype)⟩ := by
    cases b with
    | false => rw [hb rfl, hw']; exact (Option.some.inj h).symm
    | true =>
      obtain ⟨bi, hbi, h⟩ := Option.bind_eq_some_iff.mp h
      rw [hbi, hw']; exact (Option.some.inj h).symm
  rw [hm']
  simp only [QModuleSer.save, C10_qtStr_strQt]

/-- `str` is injective on the metadata values (corollary of `C10_meta_parse`) -/
theorem C10_meta_str_injective (v w : PyMeta) (h : v.str = w.str) : v = w := by
  have := C10_meta_parse v
  rw [h, C10_meta_parse w] at this
  exact (Option.some.inj this).symm

/-! ### non-vacuity: concrete values

`decide` below is kernel evaluation of a closed term — these are tests of the definitions and of
the satisfiability of the hypotheses, not the theorems. `PyMeta.parse` itself does not reduce in
the kernel (`String.splitOn` is defined by well-founded recursion), so the parse examples
instantiate `C10_meta_parse`; the literal on the left is checked against `PyMeta.str` by `rfl`. -/

example : (PyMeta.list [4096, 11008]).str = "[4096, 11008]" := by decide +kernel
example : (PyMeta.tuple [11008, 1]).str = "(11008, 1)" := by decide +kernel
example : (PyMeta.tuple [128]).str = "(128,)" := by decide +kernel
example : (PyMeta.tuple []).str = "()" := by decide +kernel
example : (PyMeta.list []).str = "[]" := by decide +kernel
example : (PyMeta.int (-1)).str = "-1" := by decide +kernel
example : PyMeta.parse "[4096, 11008]" = some (.list [4096, 11008]) := C10_meta_parse (.list [4096, 11008])
example : PyMeta.parse "(11008, 1)" = some (.tuple [11008, 1]) := C10_meta_parse (.tuple [11008, 1])
example : PyMeta.parse "(128,)" = some (.tuple [128]) := C10_meta_parse (.tuple [128])
example : PyMeta.parse "()" = some (.tuple []) := C10_meta_parse (.tuple [])
example : PyMeta.parse "[]" = some (.list []) := C10_meta_parse (.list [])
example : PyMeta.parse "-1" = some (.int (-1)) :=
  (by decide +kernel : (PyMeta.int (-1)).str = "-1") ▸ C10_meta_parse (.int (-1))
example : PyMeta.parse "128" = some (.int 128) := C10_meta_parse (.int 128)

/-- the state_dict entries of a group-wise int4 weight (sizes [4096, 11008], stride (11008, 1),
axis 0, group 128) -/
example : sampleQBits.flatten "w." =
  [("w._data._data", .tensor "packed"), ("w._data.bits", .str "4"),
   ("w._data.size", .str "[2048, 11008]"), ("w._data.stride", .str "(11008, 1)"),
   ("w._scale", .tensor "scale"), ("w._zeropoint", .tensor "zeropoint"), ("w.qtype", .str "qint4"),
   ("w.axis", .str "0"), ("w.group_size", .str "128"), ("w.size", .str "[4096, 11008]"),
   ("w.stride", .str "[11008, 1]")] := by decide +kernel

example : QBitsSer.unflatten "w." (sampleQBits.flatten "w.") = some sampleQBits :=
  C10_qbits_roundtrip _ _

example : (sampleModule4.save "fc.").map (·.1) =
  ["fc.weight._data._data", "fc.weight._data.bits", "fc.weight._data.size",
   "fc.weight._data.stride", "fc.weight._scale", "fc.weight._zeropoint", "fc.weight.qtype",
   "fc.weight.axis", "fc.weight.group_size", "fc.weight.size", "fc.weight.stride", "fc.bias",
   "fc.input_scale", "fc.output_scale", "fc.weight_qtype", "fc.activation_qtype"] := by decide +kernel

/-- the hypothesis of `C10_module_roundtrip` is satisfiable (int4 and int8 modules) -/
example : sampleModule4.WellFormed := sampleModule4_wf
example : sampleModule8.WellFormed := sampleModule8_wf

example : QModuleSer.load "fc." true (sampleModule4.save "fc.") = some sampleModule4 :=
  C10_module_roundtrip "fc." sampleModule4 sampleModule4_wf
example : QModuleSer.load "fc." false (sampleModule8.save "fc.") = some sampleModule8 :=
  C10_module_roundtrip "fc." sampleModule8 sampleModule8_wf

/-! ### the extra hypotheses are needed -/

/-- a qtype literally named `"none"` is read back as `None`: `WellFormed.aq_ne_none` (and
likewise `wq_ne_none`) cannot be dropped from `C10_module_roundtrip` -/
example : QModuleSer.load "fc." false
    (QModuleSer.save "fc." ⟨.float "w", none, "i", "o", none, some "none"⟩) ≠
    some ⟨.float "w", none, "i", "o", none, some "none"⟩ := by decide +kernel

/-- a weight kind inconsistent with `weight_qtype` is not loadable at all -/
example : QModuleSer.load "fc." true
    (QModuleSer.save "fc." { sampleModule4 with weightQtype := none }) = none := by decide +kernel

/-- loading a state_dict that has a bias into a module without bias drops it: the
`b = false → m.bias = none` hypothesis of `C10_resave_strong` cannot be dropped -/
example : (QModuleSer.load "fc." false
    (QModuleSer.save "fc." ⟨.float "w", some "b", "i", "o", none, none⟩)).map (·.save "fc.") ≠
    some (QModuleSer.save "fc." ⟨.float "w", some "b", "i", "o", none, none⟩) := by decide +kernel

/-! ### T7 : whole model

`modelSave ms` is the state_dict of a model whose quantized modules are `ms` (prefix, module), in
`named_modules` order. Loading any module from the *combined* dict gives that module back, provided
the prefixes are pairwise independent (no key under one prefix is a key under another): this is
the case for sibling modules `"fc1."`, `"fc2."`, … (`C10_prefixIndep_of_length_eq` and the concrete
examples below); it fails when a prefix is reused (`C10_counterexample_overlapping_prefixes`). -/

/-- `_load_from_state_dict` reads the dict only at keys under its own prefix -/
theorem C10_load_congr (pre : String) (b : Bool) (sd sd' : StateDict)
    (h : ∀ x, sdGet sd (pre ++ x) = sdGet sd' (pre ++ x)) :
    QModuleSer.load pre b sd = QModuleSer.load pre b sd' := load_congr pre b sd sd' h

/-- every key written by a module under prefix `pre` starts with `pre` -/
theorem C10_module_keys_prefixed (pre : String) (m : QModuleSer) :
    ∀ k ∈ (m.save pre).map (·.1), ∃ x, k = pre ++ x :=
  save_keys_prefixed pre m

/-- distinct prefixes of equal length are independent -/
theorem C10_prefixIndep_of_length_eq (a b : String) (hl : a.length = b.length) (hne : a ≠ b) :
    ∀ x y, a ++ x ≠ b ++ y :=
  have hl' : a.toList.length = b.toList.length := by simp [String.length_toList, hl]
  prefixIndep_of_not_prefix a b (fun h => hne (String.toList_inj.mp (h.eq_of_length hl')))
    (fun h => hne (String.toList_inj.mp (h.eq_of_length hl'.symm)).symm)

/-- in the whole-model dict, the lookups under a module's prefix see exactly that module's entries -/
theorem C10_model_lookup (ms : List (String × QModuleSer))
    (hpre : ms.Pairwise fun a b => ∀ x y, a.1 ++ x ≠ b.1 ++ y)
    (pm : String × QModuleSer) (hm : pm ∈ ms) (x : String) :
    sdGet (modelSave ms) (pm.1 ++ x) = sdGet (pm.2.save pm.1) (pm.1 ++ x) :=
  sdGet_modelSave ms hpre pm hm x

/-- whole-model round trip: every (well-formed) module is recovered from the combined state_dict -/
theorem C10_model_roundtrip (ms : List (String × QModuleSer))
    (hpre : ms.Pairwise fun a b => ∀ x y, a.1 ++ x ≠ b.1 ++ y)
    (pm : String × QModuleSer) (hm : pm ∈ ms) (wf : pm.2.WellFormed) :
    QModuleSer.load pm.1 pm.2.bias.isSome (modelSave ms) = some pm.2 := by
  rw [load_congr pm.1 _ (modelSave ms) (pm.2.save pm.1) (sdGet_modelSave ms hpre pm hm)]
  exact C10_module_roundtrip pm.1 pm.2 wf

/-- all modules at once -/
theorem C10_model_roundtrip_all (ms : List (String × QModuleSer))
    (hpre : ms.Pairwise fun a b => ∀ x y, a.1 ++ x ≠ b.1 ++ y)
    (wf : ∀ pm ∈ ms, pm.2.WellFormed) :
    ms.map (fun pm => QModuleSer.load pm.1 pm.2.bias.isSome (modelSave ms)) =
      ms.map (fun pm => some pm.2) :=
  List.map_congr_left fun pm hm => C10_model_roundtrip ms hpre pm hm (wf pm hm)

/-- non-vacuity: the independence hypothesis holds for the sibling prefixes `"fc1."`, `"fc2."` -/
theorem C10_model_example_indep : [("fc1.", sampleModule4), ("fc2.", sampleModule8)].Pairwise
    fun a b => ∀ x y, a.1 ++ x ≠ b.1 ++ y := by
  simp only [List.pairwise_cons, List.mem_cons, List.mem_nil_iff, or_false, forall_eq,
    List.Pairwise.nil, and_true, false_imp_iff, implies_true]
  exact C10_prefixIndep_of_length_eq "fc1." "fc2." (by decide +kernel) (by decide +kernel)

/-- a two-layer model (int4 `fc1` with bias, int8 `fc2` without): both modules are recovered from
the combined state_dict -/
example : QModuleSer.load "fc1." true
    (modelSave [("fc1.", sampleModule4), ("fc2.", sampleModule8)]) = some sampleModule4 :=
  C10_model_roundtrip _ C10_model_example_indep ("fc1.", sampleModule4) (by simp)
    sampleModule4_wf
example : QModuleSer.load "fc2." false
    (modelSave [("fc1.", sampleModule4), ("fc2.", sampleModule8)]) = some sampleModule8 :=
  C10_model_roundtrip _ C10_model_example_indep ("fc2.", sampleModule8) (by simp)
    sampleModule8_wf

/-- the combined dict has the keys of both modules, `fc1.*` then `fc2.*` -/
example : (modelSave [("fc1.", sampleModule4), ("fc2.", sampleModule8)]).map (·.1) =
  ["fc1.weight._data._data", "fc1.weight._data.bits", "fc1.weight._data.size",
   "fc1.weight._data.stride", "fc1.weight._scale", "fc1.weight._zeropoint", "fc1.weight.qtype",
   "fc1.weight.axis", "fc1.weight.group_size", "fc1.weight.size", "fc1.weight.stride", "fc1.bias",
   "fc1.input_scale", "fc1.output_scale", "fc1.weight_qtype", "fc1.activation_qtype",
   "fc2.weight._data", "fc2.weight._scale", "fc2.weight.qtype", "fc2.weight.axis",
   "fc2.weight.size", "fc2.weight.stride", "fc2.input_scale", "fc2.output_scale",
   "fc2.weight_qtype", "fc2.activation_qtype"] := by decide +kernel

/-- the independence hypothesis cannot be dropped: with the same prefix used twice the second
module is not recovered (the first one's entries shadow it) -/
theorem C10_counterexample_overlapping_prefixes :
    QModuleSer.load "fc." false
      (modelSave [("fc.", ⟨.float "w1", none, "i", "o", none, none⟩),
                  ("fc.", ⟨.float "w2", none, "i", "o", none, none⟩)]) ≠
    some ⟨.float "w2", none, "i", "o", none, none⟩ := by decide +kernel

/-- prefixes of different lengths: independent as soon as neither starts with the other -/
theorem C10_prefixIndep_of_not_prefix (a b : String) (h1 : ¬ a.toList <+: b.toList)
    (h2 : ¬ b.toList <+: a.toList) : ∀ x y, a ++ x ≠ b ++ y :=
  prefixIndep_of_not_prefix a b h1 h2

/-- non-vacuity with prefixes of different lengths and a common stem ("fc1." / "fc10." / a nested path) -/
example : [("fc1.", sampleModule4), ("fc10.", sampleModule8), ("block.0.fc1.", sampleModule4)].Pairwise
    fun a b => ∀ x y, a.1 ++ x ≠ b.1 ++ y := by
  have h12 := C10_prefixIndep_of_not_prefix "fc1." "fc10." (by decide +kernel) (by decide +kernel)
  have h13 := C10_prefixIndep_of_not_prefix "fc1." "block.0.fc1." (by decide +kernel) (by decide +kernel)
  have h23 := C10_prefixIndep_of_not_prefix "fc10." "block.0.fc1." (by decide +kernel) (by decide +kernel)
  simp only [List.pairwise_cons, List.mem_cons, List.not_mem_nil, or_false, forall_eq_or_imp, forall_eq,
    List.Pairwise.nil, and_true]
  exact ⟨⟨h12, h13⟩, h23, fun _ h => nomatch h⟩

/-! ### T8 — the independence hypothesis of T7 follows from the module paths

`dottedPrefix p` is the key prefix of the module at path `p` (every component followed by a dot).  When no
component contains a dot (torch rejects such child names) two paths neither of which is a prefix of the other
— two different quantized leaves of a module tree — never produce a common key, so every leaf of a model of
any shape is read back from the whole-model dict. -/

theorem C10_prefixIndep_of_paths (p q : List String) (hp : ∀ c ∈ p, '.' ∉ c.toList)
    (hq : ∀ c ∈ q, '.' ∉ c.toList) (h1 : ¬ p <+: q) (h2 : ¬ q <+: p) :
    ∀ x y, dottedPrefix p ++ x ≠ dottedPrefix q ++ y :=
  fun x y e => (dotted_common_key p q hp hq x y e).elim h1 h2

theorem C10_model_roundtrip_paths (ms : List (List String × QModuleSer))
    (hdot : ∀ pm ∈ ms, ∀ c ∈ pm.1, '.' ∉ c.toList)
    (hpre : ms.Pairwise fun a b => ¬ a.1 <+: b.1 ∧ ¬ b.1 <+: a.1)
    (pm : List String × QModuleSer) (hm : pm ∈ ms) (wf : pm.2.WellFormed) :
    QModuleSer.load (dottedPrefix pm.1) pm.2.bias.isSome
      (modelSave (ms.map fun pm => (dottedPrefix pm.1, pm.2))) = some pm.2 := by
  have hp : (ms.map fun pm => (dottedPrefix pm.1, pm.2)).Pairwise
      fun a b => ∀ x y, a.1 ++ x ≠ b.1 ++ y := by
    rw [List.pairwise_map]
    refine List.Pairwise.imp_of_mem ?_ hpre
    intro a b ha hb hab
    exact C10_prefixIndep_of_paths a.1 b.1 (hdot a ha) (hdot b hb) hab.1 hab.2
  exact C10_model_roundtrip _ hp (dottedPrefix pm.1, pm.2) (List.mem_map_of_mem (f := fun pm : List String × QModuleSer => (dottedPrefix pm.1, pm.2)) hm) wf

/-- non-vacuity: three quantized leaves of a nested model (`0`, `block.0.fc`, `block.1`) -/
example : dottedPrefix ["block", "0", "fc"] = "block.0.fc." := by decide +kernel
example :
    let ms : List (List String × QModuleSer) :=
      [(["0"], sampleModule4), (["block", "0", "fc"], sampleModule8), (["block", "1"], sampleModule4)]
    (∀ pm ∈ ms, ∀ c ∈ pm.1, '.' ∉ c.toList) ∧ ms.Pairwise fun a b => ¬ a.1 <+: b.1 ∧ ¬ b.1 <+: a.1 := by
  decide +kernel

end Quanto
