/-
Property C15 — AWQ layouts (`qbits/awq/packed.py`, `qbits/awq/qbits.py`): the v1 (int32) and
v2 (int16) packings are lossless, `pack_v2` is the reference packer, the scaled zero-points give
the integer zero-points back, the conversion to the AWQ representation and back is the identity,
and the AWQ dequantizer agrees with the standard one up to rounding.

Well-formed 4-bit matrix `t : T Nat` of size `[N, K]`: `t.shape = [N, K]`,
`t.data.size = N * K`, `∀ i, i < N * K → t.get i < 16`.
-/
import Proofs.Float.RepB
import Proofs.C15.V1
import Proofs.C15.Back
import Proofs.C15.Denote
import Proofs.C15.Sample

namespace Quanto

/-- T0: the two AWQ order lists (regenerated from the source on every run) are inverse permutations -/
theorem C15_orders_inverse :
    (List.range 8).all (fun m => Generated.awqOrder.getD (Generated.awqReverseOrder.getD m 8) 8 = m
      && Generated.awqReverseOrder.getD (Generated.awqOrder.getD m 8) 8 = m) = true := by decide

/-- T1: `unpack(pack(t, reorder), reorder) = t` for every `[N, K]` matrix of 4-bit codes with
`8 ∣ K`, with and without the AWQ column reordering. -/
theorem C15_v1_roundtrip (t : T Nat) (N K : Nat) (hs : t.shape = [N, K])
    (hsz : t.data.size = N * K) (h8 : 8 ∣ K) (hv : ∀ i, i < N * K → t.get i < 16) :
    ∀ reorder, awqUnpackV1 reorder (awqPackV1 reorder t) = t := by
  intro reorder
  obtain ⟨C, rfl⟩ := h8
  have hall := T.get_lt_all t 16 (by decide) (by rw [hsz]; exact hv)
  unfold awqUnpackV1
  simp only [awqPackV1_shape reorder t N C hs, List.headD_cons, List.getD_cons_succ,
    List.getD_cons_zero]
  refine T.ofFn_eq t _ _ (by rw [hs, Nat.mul_comm]) (by rw [hs, hsz]; simp [prod]) fun n hn => ?_
  -- position `n` is column `j = n % K` of row `n / K`; `unpack` reads field `σ (j % 8)` of word
  -- `j / 8` of that row, where `pack` put column `8 * (j / 8) + order[σ (j % 8)] = j`
  rw [prod, prod, prod, Nat.mul_one] at hn
  have hK : 0 < C * 8 := Nat.pos_of_mul_pos_left (Nat.zero_lt_of_lt hn)
  obtain ⟨h1, h2⟩ := v1_order reorder (n % (C * 8) % 8) (Nat.mod_lt _ (by decide))
  rw [v1_pos, Nat.mul_add_div (by decide), Nat.div_eq_of_lt h1, Nat.add_zero, Nat.mul_add_mod,
    Nat.mod_eq_of_lt h1,
    awqField_awqPackV1 reorder t N C hs hall _ _ ((Nat.div_lt_iff_lt_mul hK).2 hn)
      (Nat.div_lt_of_lt_mul (Nat.lt_of_lt_of_eq (Nat.mod_lt _ hK) (Nat.mul_comm C 8))) _ h1,
    h2, Nat.add_assoc, Nat.div_add_mod', Nat.mul_comm 8 C, Nat.div_add_mod']

/-- T2: the position permutation of `pack_v2` is that of the reference packer — for every tensor
(the intermediate views do not move data), no divisibility hypothesis needed. -/
theorem C15_v2_reorder_is_reference (t : T Nat) : awqV2Reorder t = awqRefReorder t := by
  -- the views between the two transpositions do not move data, and the first transposition swaps
  -- two axes of equal size, so the view back to (…, 4, 4, 2) leaves its shape as it is
  unfold awqV2Reorder awqRefReorder
  simp only [T.reshape_reshape]
  exact congrArg (fun X : T Nat => (X.permute [0, 1, 2, 4, 3]).reshape _) (T.reshape_shape _ _ rfl).symm

/-- T2: `pack_v2` is `external/awq/pack_intweight.py` (interleave 4, kstride 64). -/
theorem C15_v2_is_reference (t : T Nat) : awqPackV2 t = awqPackRef t := by
  rw [awqPackV2, awqPackRef, C15_v2_reorder_is_reference]

/-- T3: `unpack_v2(pack_v2(t)) = t` for every `[N, K]` matrix of 4-bit codes with `4 ∣ N`,
`64 ∣ K`. -/
theorem C15_v2_roundtrip (t : T Nat) (N K : Nat) (hs : t.shape = [N, K])
    (hsz : t.data.size = N * K) (h4 : 4 ∣ N) (h64 : 64 ∣ K)
    (hv : ∀ i, i < N * K → t.get i < 16) : awqUnpackV2 (awqPackV2 t) = t :=
  v2_roundtrip t N K hs hsz h4 h64 hv

/-- T3 for the reference packer. -/
theorem C15_ref_roundtrip (t : T Nat) (N K : Nat) (hs : t.shape = [N, K])
    (hsz : t.data.size = N * K) (h4 : 4 ∣ N) (h64 : 64 ∣ K)
    (hv : ∀ i, i < N * K → t.get i < 16) : awqUnpackV2 (awqPackRef t) = t := by
  rw [← C15_v2_is_reference]
  exact v2_roundtrip t N K hs hsz h4 h64 hv

/-- T4: the integer zero-point is recovered from the scaled, negated zero-point `fl(-z·s)`:
every working format, representable positive scale, `|z| ≤ 15` (in particular `0 ≤ z ≤ 15`). -/
theorem C15_zeropoint_recovered (F : Fmt) (hF : WorkFmt F) (s : Rat) (hpos : 0 < s)
    (hrep : F.Rep s) (z : Int) (hz : |z| ≤ 15) (hfin : s * 15 ≤ F.maxFin) :
    toInt8 ((F.div (F.mul (.fin (wrapInt8 (-z))) (.fin s)).neg (.fin s)).round) = z :=
  zeropoint_recovered_work F hF s hrep hpos z hz hfin

/-- T4 for the zero-points of 4-bit affine codes, `0 ≤ z ≤ 15`: a case of `C15_zeropoint_recovered`. -/
theorem C15_zeropoint_recovered_nonneg (F : Fmt) (hF : WorkFmt F) (s : Rat) (hpos : 0 < s)
    (hrep : F.Rep s) (z : Int) (hz0 : 0 ≤ z) (hz1 : z ≤ 15) (hfin : s * 15 ≤ F.maxFin) :
    toInt8 ((F.div (F.mul (.fin (wrapInt8 (-z))) (.fin s)).neg (.fin s)).round) = z :=
  zeropoint_recovered_work F hF s hrep hpos z (abs_le.mpr ⟨by omega, hz1⟩) hfin

/-- T4, float32 / float16: every int8 zero-point but -128, provided `z·s` does not overflow. -/
theorem C15_zeropoint_recovered_int8 (F : Fmt) (hF : F = f32 ∨ F = f16) (s : Rat) (hpos : 0 < s)
    (hrep : F.Rep s) (z : Int) (hz : |z| ≤ 127) (hfin : s * |(z : Rat)| ≤ F.maxFin) :
    toInt8 ((F.div (F.mul (.fin (wrapInt8 (-z))) (.fin s)).neg (.fin s)).round) = z := by
  obtain ⟨hu, he⟩ := u_eta_small F hF
  -- `u ≤ 1/2000`, `eta ≤ 1/1000`
  have hsmall : F.u * (2 * 127 + 1) + F.eta < 1 / 2 :=
    (add_le_add (mul_le_mul_of_nonneg_right hu (by norm_num)) he).trans_lt (by norm_num)
  exact zeropoint_recovered_of_abs_le F (WorkFmt.of_f32_or_f16 hF) s hrep hpos z 127
    (by exact_mod_cast hz) le_rfl hsmall hfin

/-- the int8 range of T4 does not extend to bfloat16: `z = 127`, `s = 3/2` gives 126. -/
theorem C15_counterexample_zeropoint_bf16 :
    toInt8 ((bf16.div (bf16.mul (.fin (wrapInt8 (-127))) (.fin (3 / 2))).neg (.fin (3 / 2))).round)
      = 126 := by
  decide +kernel

/-- T5: a standard 4-bit tensor quantized along axis 0 in groups of `gs` columns, converted to
the AWQ representation and back (as repaired), is the tensor itself — whole structure. -/
theorem C15_back_conversion (F : Fmt) (hF : WorkFmt F) (q : QBits) (N K gs : Nat)
    (hbits : q.bits = 4) (haxis : q.axisFirst = true) (hgs : q.groupSize = some gs)
    (hsize : q.size = [N, K]) (hgd : gs ∣ K) (h4 : 4 ∣ N) (h64 : 64 ∣ K)
    (hds : q.data.shape = [N * K / gs, gs]) (hdsz : q.data.data.size = N * K)
    (hcodes : ∀ i, i < N * K → q.data.get i < 16)
    (hss : q.scale.shape = [N * K / gs, 1]) (hssz : q.scale.data.size = N * K / gs)
    (hsv : ∀ i, i < N * K / gs →
      ∃ s, q.scale.get i = .fin s ∧ 0 < s ∧ F.Rep s ∧ s * 15 ≤ F.maxFin)
    (hzs : q.zero.shape = [N * K / gs, 1]) (hzsz : q.zero.data.size = N * K / gs)
    (hzv : ∀ i, i < N * K / gs → 0 ≤ q.zero.get i ∧ q.zero.get i ≤ 15) :
    (AwqBits.ofQBits F q).toQBits F 4 = q := by
  obtain ⟨bits, af, g, size, data, scale, zero⟩ := q
  simp only at hbits haxis hgs hsize hds hdsz hcodes hss hssz hsv hzs hzsz hzv
  subst hbits haxis hgs hsize
  have hM : N * K / gs = N * (K / gs) := Nat.mul_div_assoc N hgd
  have h2 := back_scale scale N (K / gs) _ hM hss hssz
  have h3 := back_zero F hF scale zero N (K / gs) _ hM hss hssz hsv hzs hzsz
    fun i hi => abs_le.mpr ⟨by have := (hzv i hi).1; omega, (hzv i hi).2⟩
  unfold AwqBits.toQBits AwqBits.ofQBits
  simp only [List.headD_cons, List.getD_cons_succ, List.getD_cons_zero, Option.getD_some]
  rw [v2_roundtrip (data.reshape [N, K]) N K rfl hdsz h4 h64 hcodes, T.reshape_reshape,
    T.reshape_shape data _ hds, h3, h2]

/-- T6: one element, code `c < 16`, zero-point `0 ≤ z ≤ 15`, scale `s > 0`, all intermediate values
finite.  `ya` is what `AWQBitsDequantizer` computes
(`s·c` rounded, plus the stored `fl(-z·s)`, rounded), `ys` what `QBitsDequantizer` computes
(`s·(c - z)` rounded).  The bound is relative to `s·c + s·z`, not to the result `s·(c - z)`: the AWQ
path rounds the two products separately, so their errors do not shrink when `c - z` cancels (last
example of this file: 32, two units in the last place of the result). -/
theorem C15_denotes_same (F : Fmt) (hF : WorkFmt F) (s : Rat) (hpos : 0 < s) (c : Nat)
    (hc : c < 16) (z : Int) (hz0 : 0 ≤ z) (hz1 : z ≤ 15) (p1 p2 ya ys : Rat)
    (hp1 : F.mul (.fin s) (.fin (c : Rat)) = .fin p1)
    (hp2 : F.mul (.fin (wrapInt8 (-z))) (.fin s) = .fin p2)
    (hya : F.add (.fin p1) (.fin p2) = .fin ya)
    (hys : affDeq F c (.fin s) z = .fin ys) :
    |ya - ys| ≤ F.u * (s * c + s * z) * (1 + F.u) + 2 * F.u * |s * ((c : Rat) - z)| +
      (4 + 2 * F.u) * F.eta := by
  refine (denote_sum F hF s c hc z hz0 hz1 (η1 := F.eta) (herr := fun n p h => ?_)
    (hp1 := hp1) (hp2 := hp2) (hya := hya) (hys := hys)).trans (le_of_eq (by ring))
  have e := fl_err F hF h
  rwa [abs_mul, abs_of_pos hpos] at e

/-- T6 with a representable scale: the two products are rounded with a purely relative error. -/
theorem C15_denotes_same_rep (F : Fmt) (hF : WorkFmt F) (s : Rat) (hpos : 0 < s)
    (hrep : F.Rep s) (c : Nat) (hc : c < 16) (z : Int) (hz0 : 0 ≤ z) (hz1 : z ≤ 15)
    (p1 p2 ya ys : Rat)
    (hp1 : F.mul (.fin s) (.fin (c : Rat)) = .fin p1)
    (hp2 : F.mul (.fin (wrapInt8 (-z))) (.fin s) = .fin p2)
    (hya : F.add (.fin p1) (.fin p2) = .fin ya)
    (hys : affDeq F c (.fin s) z = .fin ys) :
    |ya - ys| ≤ F.u * (s * c + s * z) * (1 + F.u) + 2 * F.u * |s * ((c : Rat) - z)| +
      2 * F.eta :=
  (denote_sum F hF s c hc z hz0 hz1 (η1 := 0)
    (herr := fun n p h => (mul_int_err F hF hrep hpos h).trans_eq (add_zero _).symm)
    (hp1 := hp1) (hp2 := hp2) (hya := hya) (hys := hys)).trans (le_of_eq (by ring))

/-- T7 (the repaired defect): only two shapes are compared.  `origBackDataShape` is the size `[4, 256]`,
the shape of the ungrouped payload that the original `qbits_tensor` passed on (that function itself is
not modelled); `QBitsTensor` requires the grouped layout `[4·256/128, 128] = [8, 128]`. -/
theorem C15_counterexample_back_ungrouped (p : T Nat) (s z : T FV) :
    (⟨[4, 256], 128, p, s, z⟩ : AwqBits).origBackDataShape ≠ [4 * 256 / 128, 128] := by
  show ([4, 256] : List Nat) ≠ [4 * 256 / 128, 128]
  decide

/-! ### selection of the optimised representation (`QBitsTensor.create`, `optimize`, `_to_copy`) -/

/-- T8: the decision of `QBitsTensor.create`, *as the extractor read it from the source text on this
run* (`Generated.awqCreateConds`), is the closed form `awqSelected`: every conjunct is understood
and their conjunction is the model's.  An edit of the condition breaks this theorem. -/
theorem C15_create_decision_regenerated (c : CreateCfg) : awqSelectedGen c = some (awqSelected c) := by
  -- (robust to a reordering of the conjuncts in the source: `&&` is compared up to associativity / commutativity)
  simp [awqSelectedGen, Generated.awqCreateConds, evalCreateCond, awqSelected, List.foldl]
  try ac_rfl

/-- T8: the AWQ representation is selected exactly for int4, float16, first axis, groups of 128,
rank 2, on a CUDA device of major capability at least 8. -/
theorem C15_create_selects_iff (c : CreateCfg) :
    createOutcome c ≠ .ok .qbits ↔ (c.qtype = "qint4" ∧ c.dtype = "f16" ∧ c.axis = 0 ∧
      c.groupSize = 128 ∧ c.size.length = 2 ∧ c.devType = "cuda" ∧ 8 ≤ c.capMajor) := by
  rw [← awqSelected_iff, createOutcome]
  cases awqSelected c
  · simp
  · cases v2Admissible c.size <;> simp

/-- T8: the text of `_to_copy` — the one decision of this family that cannot be executed without a
GPU — is what the model assumes: a subclass instance is converted back before it changes device type,
and the result is built by `create`.  (`optimize` is tied behaviourally, by the driver command `optimize15` of the harness.) -/
theorem C15_to_copy_text :
    Generated.awqToCopyConds.getD 1 "" = "type(t) != QBitsTensor | t.device.type != device.type => t = t.qbits_tensor()" ∧
    Generated.awqToCopyConds.getLast? = some "return QBitsTensor.create" := ⟨rfl, rfl⟩

/-- T9: off CUDA — in particular after `_to_copy` to the CPU, i.e. when leaving the GPU or
serializing — the result is always the standard representation. -/
theorem C15_create_off_cuda_is_standard (c : CreateCfg) (h : c.devType ≠ "cuda") :
    createOutcome c = .ok .qbits := by
  by_contra hne
  exact h ((C15_create_selects_iff c).mp hne).2.2.2.2.2.1

theorem C15_to_copy_off_cuda_is_standard (c : CreateCfg) (target : String) (cap : Nat)
    (h : target ≠ "cuda") : toCopyOutcome c target cap = .ok .qbits :=
  C15_create_off_cuda_is_standard _ h

/-- T9: a subclass instance that changes device type is converted back first. -/
theorem C15_to_copy_converts_back (c : CreateCfg) (target : String) (h : c.devType ≠ target) :
    toCopyConvertsBack .awq c target = true := by
  simp [toCopyConvertsBack, h]

/-- T10 (partial: rows a multiple of 4): whenever the AWQ representation is selected for a tensor
that is validly grouped (the group size divides the columns) and has a multiple of 4 rows, the
construction is admissible — and `C15_back_conversion`'s divisibility hypotheses hold. -/
theorem C15_create_selected_admissible_partial (c : CreateCfg) (N K : Nat)
    (hsel : awqSelected c = true) (hsize : c.size = [N, K]) (hK : c.groupSize ∣ K) (hN : 4 ∣ N)
    (hN0 : 0 < N) (hK0 : 0 < K) :
    createOutcome c = .ok .awq ∧ 4 ∣ N ∧ 64 ∣ K := by
  have hg : c.groupSize = 128 := ((awqSelected_iff c).mp hsel).2.2.2.1
  rw [hg] at hK
  have h64 : 64 ∣ K := by omega
  refine ⟨?_, hN, h64⟩
  simp [createOutcome, hsel, hsize, v2Admissible, Nat.mod_eq_zero_of_dvd hN,
    Nat.mod_eq_zero_of_dvd h64, hN0, hK0]

/-- T10 at full strength is false: a float16 int4 weight of 6 rows and 128 columns is selected for
the AWQ representation on a capability-8 device although `pack_v2` cannot pack 6 rows. -/
theorem C15_counterexample_create_selects_inadmissible :
    ∃ c : CreateCfg, c.size = [6, 128] ∧ c.groupSize ∣ 128 ∧ awqSelected c = true ∧
      createOutcome c = .raises :=
  ⟨⟨"qint4", "f16", 0, 128, [6, 128], "cuda", 8⟩, rfl, by decide, by decide, by decide⟩

/-- T11: `optimize` is idempotent — optimizing the result again returns the same class. -/
theorem C15_optimize_idempotent (cls : QCls) (c : CreateCfg) (r : QCls)
    (h : optimizeOutcome cls c = .ok r) : optimizeOutcome r c = .ok r := by
  cases r with
  | awq => rfl
  | qbits =>
    -- a subclass instance is returned as is, so a standard result came from a standard tensor
    cases cls with
    | qbits => exact h
    | awq => cases h

/-- non-vacuity of T10: a [8, 256] weight on a capability-9 device -/
example : createOutcome ⟨"qint4", "f16", 0, 128, [8, 256], "cuda", 9⟩ = .ok .awq ∧ 4 ∣ 8 ∧ 64 ∣ 256 :=
  C15_create_selected_admissible_partial _ 8 256 (by decide) rfl (by decide) (by decide) (by decide) (by decide)

/-! ### non-vacuity: concrete instances satisfy the hypotheses
(`c15Sample` is the `[4, 64]` matrix with codes `i % 16`, see `Proofs/C15/Sample.lean`) -/

/-- T1 on the sample, both orders -/
example : ∀ reorder, awqUnpackV1 reorder (awqPackV1 reorder c15Sample) = c15Sample :=
  C15_v1_roundtrip c15Sample 4 64 rfl (by simp [c15Sample]) (by decide) c15Sample_lt

/-- T3 on the sample -/
example : awqUnpackV2 (awqPackV2 c15Sample) = c15Sample :=
  C15_v2_roundtrip c15Sample 4 64 rfl (by simp [c15Sample]) (by decide) (by decide) c15Sample_lt

/-- T4 at float16: `s = 1/4`, `z = 7` -/
example : toInt8 ((f16.div (f16.mul (.fin (wrapInt8 (-7))) (.fin (1 / 4))).neg (.fin (1 / 4))).round)
    = 7 :=
  C15_zeropoint_recovered_nonneg f16 (by simp [WorkFmt]) (1 / 4) (by norm_num)
    (repB_sound f16 _ (by decide +kernel)) 7 (by decide) (by decide)
    (by have := work_maxFin_ge f16 (by simp); linarith)

/-- T5 at float16 on the sample: one group of 64 per row, scales 1/4, zero-points 7 -/
example : (AwqBits.ofQBits f16 ⟨4, true, some 64, [4, 64], c15Sample, ⟨[4, 1], #[.fin (1 / 4), .fin (1 / 4), .fin (1 / 4), .fin (1 / 4)]⟩,
      ⟨[4, 1], #[7, 7, 7, 7]⟩⟩).toQBits f16 4 =
    ⟨4, true, some 64, [4, 64], c15Sample, ⟨[4, 1], #[.fin (1 / 4), .fin (1 / 4), .fin (1 / 4), .fin (1 / 4)]⟩,
      ⟨[4, 1], #[7, 7, 7, 7]⟩⟩ := by
  refine C15_back_conversion f16 (by simp [WorkFmt]) _ 4 64 64 rfl rfl rfl rfl (by decide) (by decide)
    (by decide) rfl (by simp [c15Sample]) c15Sample_lt rfl rfl ?_ rfl rfl ?_
  · refine fun i hi => ⟨1 / 4, ?_, by norm_num, repB_sound f16 _ (by decide +kernel),
      by have := work_maxFin_ge f16 (by simp); linarith⟩
    have : i = 0 ∨ i = 1 ∨ i = 2 ∨ i = 3 := by have : i < 4 := hi; omega
    rcases this with rfl | rfl | rfl | rfl <;> rfl
  · decide

/-- T6 at float16, `s = 5464`, `c = 1`, `z = 6`: the two dequantizers differ by 32 (two units in
the last place of the result); the hypotheses of T6 hold. -/
example :
    f16.mul (.fin 5464) (.fin ((1 : Nat) : Rat)) = .fin 5464 ∧
    f16.mul (.fin (wrapInt8 (-6))) (.fin 5464) = .fin (-32768) ∧
    f16.add (.fin 5464) (.fin (-32768)) = .fin (-27296) ∧
    affDeq f16 1 (.fin 5464) 6 = .fin (-27328) := by
  decide +kernel

end Quanto
