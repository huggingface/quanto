/-
C14 — configuration validation: `quantize_weight`, `quantize_activation`, the two quantizers'
own sanity ladders and the automatic group size of quantized modules either accept a
configuration and honour it, or reject it with `ValueError` — nothing else.
-/
import Proofs.C14.Lemmas
namespace Quanto
open C14

/-! ### T1 — `quantize_weight`: accept-and-honour or `ValueError`

Domain: `group_size ≥ 1` and no dimension of size 0; outside it `groupShape` answers `none` (hence `ValueError`
here and in T2, T6) where Python raises `ZeroDivisionError`. -/

theorem C14_weight_total (shape : List Nat) (q : QType) (axis : Option Int) (gs : Option Nat)
    (opt : OptFamily) :
    validateWeight shape q axis gs opt = .error .valueError ∨
    ∃ c, validateWeight shape q axis gs opt = .ok c ∧ c.qtype = q ∧ c.groupSize = gs ∧
      (∀ g, gs = some g → ∃ s, groupShape shape (axis == some 0) g = some s) := by
  cases axis with
  | none => exact .inl rfl
  | some a =>
    rw [validateWeight_some]
    split
    · exact .inl rfl
    · rename_i h
      refine .inr ⟨_, rfl, rfl, rfl, fun g hg => Option.ne_none_iff_exists'.mp fun hn => h ?_⟩
      subst hg
      by_cases h8 : q.bits = 8
      · exact Or.inr (Or.inl ⟨h8, Or.inr (Or.inl rfl)⟩)  -- guard 2 (8-bit): a group size is given
      · exact Or.inr (Or.inr ⟨h8, Or.inr ⟨g, rfl, hn⟩⟩)  -- guard 3 (sub-8-bit): the group size does not fit

/-! ### T2 — what is rejected -/

theorem C14_weight_rejects_axis (shape : List Nat) (q : QType) (axis : Option Int)
    (gs : Option Nat) (opt : OptFamily) (h0 : axis ≠ some 0) (h1 : axis ≠ some (-1)) :
    validateWeight shape q axis gs opt = .error .valueError := by
  cases axis with
  | none => rfl
  | some a =>
    -- guard 1: the axis is neither 0 nor -1
    rw [validateWeight_some, if_pos (Or.inl ⟨fun h => h0 (by rw [h]), fun h => h1 (by rw [h])⟩)]

theorem C14_weight_rejects_group_8bit (shape : List Nat) (q : QType) (axis : Option Int)
    (gs : Option Nat) (opt : OptFamily) (h8 : q.bits = 8) (hg : gs.isSome) :
    validateWeight shape q axis gs opt = .error .valueError := by
  cases axis with
  | none => rfl
  | some a =>
    -- guard 2 (8-bit): a group size is given
    rw [validateWeight_some, if_pos (Or.inr (Or.inl ⟨h8, Or.inr (Or.inl hg)⟩))]

theorem C14_weight_rejects_affine_opt_8bit (shape : List Nat) (q : QType) (axis : Option Int)
    (gs : Option Nat) (h8 : q.bits = 8) :
    validateWeight shape q axis gs .affine = .error .valueError := by
  cases axis with
  | none => rfl
  | some a =>
    -- guard 2 (8-bit): the affine optimizer is requested
    rw [validateWeight_some, if_pos (Or.inr (Or.inl ⟨h8, Or.inl rfl⟩))]

theorem C14_weight_rejects_symmetric_opt_lowbit (shape : List Nat) (q : QType)
    (axis : Option Int) (gs : Option Nat) (h8 : q.bits ≠ 8) :
    validateWeight shape q axis gs .symmetric = .error .valueError := by
  cases axis with
  | none => rfl
  | some a =>
    -- guard 3 (sub-8-bit): the symmetric optimizer is requested
    rw [validateWeight_some, if_pos (Or.inr (Or.inr ⟨h8, Or.inl rfl⟩))]

theorem C14_weight_rejects_bad_group (shape : List Nat) (q : QType) (axis : Option Int)
    (g : Nat) (opt : OptFamily) (h8 : q.bits ≠ 8) (hax : axis = some 0 ∨ axis = some (-1))
    (hg : groupShape shape (axis == some 0) g = none) :
    validateWeight shape q axis (some g) opt = .error .valueError := by
  -- guard 3 (sub-8-bit): the group size does not fit
  rcases hax with rfl | rfl <;>
    rw [validateWeight_some, if_pos (Or.inr (Or.inr ⟨h8, Or.inr ⟨g, rfl, hg⟩⟩))]

theorem C14_group_rejects_non_divisor (shape : List Nat) (af : Bool) (g : Nat) :
    groupShape shape af g = none ↔
      ((if af then shape.headD 0 else shape.getLastD 0) = 0 ∨ g = 0 ∨
        g > prod shape / (if af then shape.headD 0 else shape.getLastD 0) ∨
        (prod shape / (if af then shape.headD 0 else shape.getLastD 0)) % g ≠ 0) := by
  simp only [groupShape]
  generalize (if af = true then shape.headD 0 else shape.getLastD 0) = D
  simp only [guard_or]
  split
  next hc => exact ⟨fun _ => hc, fun _ => rfl⟩
  next hc => exact ⟨fun h => (by cases af <;> cases h), fun h => absurd h hc⟩

/-! ### T3 — the requested axis is honoured -/

theorem C14_weight_axis_honoured (shape : List Nat) (q : QType) (a : Int) (gs : Option Nat)
    (opt : OptFamily) (c : WeightCfg)
    (h : validateWeight shape q (some a) gs opt = .ok c) :
    c.axis = some (decide (a = 0)) ∨ (q.bits = 8 ∧ dimAt shape a = 1 ∧ c.axis = none) := by
  rw [validateWeight_some] at h
  obtain ⟨-, rfl⟩ := ok_of_guard h
  by_cases hd : q.bits = 8 ∧ dimAt shape a = 1
  · exact .inr ⟨hd.1, hd.2, if_pos hd⟩
  · exact .inl (if_neg hd)

/-! ### T4 — activations take a scalar scale only -/

theorem C14_activation_scalar_only (sshape : List Nat) :
    validateActivation sshape = .ok () ↔ sshape = [] := by
  rw [validateActivation_eq]
  split
  next hs => exact ⟨fun _ => hs, fun _ => rfl⟩
  next hs => exact ⟨fun h => (by cases h), fun h => absurd h hs⟩

theorem C14_activation_total (sshape : List Nat) :
    validateActivation sshape = .ok () ∨ validateActivation sshape = .error .valueError := by
  rw [validateActivation_eq]
  split
  · exact .inl rfl
  · exact .inr rfl

/-! ### T5 — `SymmetricQuantizer.forward` -/

theorem C14_symmetric_total (shape : List Nat) (axis : Option Int) (sshape : List Nat) :
    symValidate shape axis sshape = .error .valueError ∨
    ∃ ax, symValidate shape axis sshape = .ok ax := by
  cases axis with
  | none =>
    rw [symValidate_none]
    split
    · exact .inr ⟨_, rfl⟩
    · exact .inl rfl
  | some a =>
    rw [symValidate_some]
    split
    · exact .inl rfl
    · exact .inr ⟨_, rfl⟩

theorem C14_symmetric_per_tensor (shape : List Nat) (sshape : List Nat) (ax : Axis)
    (h : symValidate shape none sshape = .ok ax) : ax = none ∧ sshape = [] := by
  rw [symValidate_none] at h
  split at h
  next hs =>
    cases h
    exact ⟨rfl, hs⟩
  next => cases h

theorem C14_symmetric_per_axis_scale_shape (shape : List Nat) (a : Int) (sshape : List Nat)
    (ax : Axis) (h : symValidate shape (some a) sshape = .ok ax) :
    ∃ af, ax = some af ∧ 2 ≤ shape.length ∧
      (scaleShapeFor shape (some af)).contains sshape = true := by
  rw [symValidate_some] at h
  generalize normAxis shape.length a = a' at h
  obtain ⟨hno, rfl⟩ := ok_of_guard h
  simp only [not_or, Decidable.not_not, Nat.not_lt] at hno
  obtain ⟨hlen1, -, hdim, hrank, hlen, hsdim, hprod⟩ := hno
  -- the empty shape is excluded by the product check
  have hlen2 : 2 ≤ shape.length := by
    cases shape with
    | nil =>
      cases List.eq_nil_of_length_eq_zero hlen
      exact absurd hprod.symm hdim
    | cons x xs => cases xs with
      | nil => exact absurd rfl hlen1
      | cons y ys => exact Nat.le_add_left 2 _
  refine ⟨_, rfl, hlen2, ?_⟩
  rw [← hsdim] at hdim
  have h1 : 1 ≤ sshape.length := by omega
  by_cases ha : a' = 0
  · simp only [dimAt, ha, if_true] at hsdim hdim
    simp only [ha, decide_true, scaleShapeFor, List.contains_cons, List.contains_nil,
      Bool.or_false, beq_iff_eq, ← hlen, ← hsdim]
    exact keepdim_head sshape _ hdim rfl hrank h1
  · simp only [dimAt, ha, if_false] at hsdim hdim
    simp only [ha, decide_false, scaleShapeFor, List.contains_cons, List.contains_nil,
      Bool.or_false, beq_iff_eq, ← hlen, ← hsdim]
    exact keepdim_last sshape _ hdim rfl hrank h1

/-! ### T6 — `AffineQuantizer.forward` -/

theorem C14_affine_total (shape : List Nat) (q : QType) (axis : Option Int) (gs : Option Nat) :
    validateAffine shape q axis gs = .ok () ∨
    validateAffine shape q axis gs = .error .valueError := by
  cases axis with
  | none => exact .inr (by simp only [validateAffine, ite_self])
  | some a =>
    rw [validateAffine_some]
    split
    · exact .inr rfl
    · exact .inl rfl

theorem C14_affine_rejects_8bit (shape : List Nat) (q : QType) (axis : Option Int)
    (gs : Option Nat) (h8 : q.bits = 8) :
    validateAffine shape q axis gs = .error .valueError := by
  have : q ≠ .qint2 ∧ q ≠ .qint4 := by
    constructor <;> (intro h; subst h; simp [QType.bits] at h8)
  exact if_pos this

/-! ### T7 — automatic group size -/

theorem C14_autogroup_some (n g : Nat) (h : autoGroup n = some g) :
    g ∣ n ∧ g ∈ [128, 96, 64, 32] ∧ 128 < n := by
  rw [autoGroup_eq_find] at h
  split at h
  next hn =>
    exact ⟨Nat.dvd_of_mod_eq_zero (by simpa using List.find?_some h), List.mem_of_find?_eq_some h, hn⟩
  next => cases h

theorem C14_autogroup_none (n : Nat) :
    autoGroup n = none ↔
      (n ≤ 128 ∨ (n % 128 ≠ 0 ∧ n % 96 ≠ 0 ∧ n % 64 ≠ 0 ∧ n % 32 ≠ 0)) := by
  rw [autoGroup_eq_find]
  split
  next hn =>
    simp only [List.find?_eq_none, List.forall_mem_cons, List.not_mem_nil, false_imp_iff, implies_true,
      and_true, decide_eq_true_eq]
    exact ⟨.inr, fun h => h.resolve_left (Nat.not_le.mpr hn)⟩
  next hn => exact ⟨fun _ => .inl (Nat.le_of_not_gt hn), fun _ => rfl⟩

/-- no automatic group for at most 128 input features -/
theorem C14_autogroup_small (n : Nat) (h : n ≤ 128) : autoGroup n = none :=
  (C14_autogroup_none n).mpr (.inl h)

theorem C14_autogroup_maximal (n g : Nat) (h : autoGroup n = some g) :
    ∀ g' ∈ [128, 96, 64, 32], g' ∣ n → g' ≤ g := by
  rw [autoGroup_eq_find] at h
  split at h
  · exact fun g' hg' hd => find?_max_of_descending (by decide) h g' hg'
      (decide_eq_true (Nat.mod_eq_zero_of_dvd hd))
  · cases h

theorem C14_groupable_of_autoGroup (shape : List Nat) (out m g : Nat) (hh : shape.headD 0 = out)
    (hp : prod shape = out * m) (h : autoGroup m = some g) (ho : 1 ≤ out) :
    ∃ s, groupShape shape true g = some s := by
  obtain ⟨hdvd, hmem, hn⟩ := C14_autogroup_some m g h
  have hg : 0 < g ∧ g ≤ 128 := (by decide : ∀ g ∈ [128, 96, 64, 32], 0 < g ∧ g ≤ 128) g hmem
  refine Option.ne_none_iff_exists'.mp fun hnone => ?_
  rw [C14_group_rejects_non_divisor, if_pos rfl, hh, hp, Nat.mul_div_cancel_left m ho] at hnone
  rcases hnone with h0 | h0 | h0 | h0
  · exact Nat.ne_of_gt ho h0
  · exact Nat.ne_of_gt hg.1 h0
  · exact Nat.not_lt.mpr (Nat.le_trans hg.2 (Nat.le_of_lt hn)) h0
  · exact h0 (Nat.mod_eq_zero_of_dvd hdvd)

theorem C14_autogroup_groupable (n g out : Nat) (h : autoGroup n = some g) (ho : 1 ≤ out) :
    ∃ s, groupShape [out, n] true g = some s :=
  C14_groupable_of_autoGroup _ out n g rfl (by simp [prod]) h ho

theorem C14_autogroup_groupable_conv (c kh kw g out : Nat)
    (h : autoGroup (c * kh * kw) = some g) (ho : 1 ≤ out) :
    ∃ s, groupShape [out, c, kh, kw] true g = some s :=
  C14_groupable_of_autoGroup _ out _ g rfl (by simp [prod, Nat.mul_assoc]) h ho

/-! ### non-vacuity -/

attribute [local instance] exceptDecEq

example : validateWeight [4, 256] .qint4 (some 0) (some 128) .default
    = .ok ⟨.qint4, some true, some 128⟩ := rfl
example : validateWeight [4, 256] .qint8 (some 0) none .default = .ok ⟨.qint8, some true, none⟩ := rfl
example : validateWeight [1, 256] .qint8 (some 0) none .default = .ok ⟨.qint8, none, none⟩ := rfl
example : validateWeight [4, 256] .qint4 (some 1) (some 128) .default = .error .valueError := rfl
example : validateWeight [4, 256] .qint4 none none .default = .error .valueError := rfl
example : validateWeight [4, 256] .qint4 (some 0) (some 100) .default = .error .valueError := rfl
example : validateWeight [4, 256] .qint8 (some 0) (some 128) .default = .error .valueError := rfl
example : validateWeight [4, 256] .qint8 (some 0) none .affine = .error .valueError := rfl
example : validateWeight [4, 256] .qint4 (some 0) none .symmetric = .error .valueError := rfl
example : validateActivation [] = .ok () := rfl
example : validateActivation [1] = .error .valueError := rfl
example : symValidate [4, 256] (some 0) [4, 1] = .ok (some true) := by decide +kernel
example : symValidate [4, 256] (some (-1)) [1, 256] = .ok (some false) := by decide +kernel
example : symValidate [4, 256] (some 1) [1, 256] = .ok (some false) := by decide +kernel
example : symValidate [4, 256] (some 0) [1, 4] = .error .valueError := by decide +kernel
example : symValidate [4, 256] none [] = .ok none := rfl
example : validateAffine [4, 256] .qint4 (some 0) (some 128) = .ok () := by decide +kernel
example : validateAffine [4, 256] .qint8 (some 0) none = .error .valueError := rfl
example : autoGroup 384 = some 128 := rfl
example : autoGroup 160 = some 32 := rfl
example : autoGroup 200 = none := rfl
example : autoGroup 96 = none := rfl
example : ∃ s, groupShape [8, 384] true 128 = some s :=
  C14_autogroup_groupable 384 128 8 (by decide) (by decide)

end Quanto
