/-
Property C03 — scale selection: the absmax scale of a slice neither saturates nor wastes range
(up to rounding), scales have the keepdim shape and depend only on their own slice, grouping is
an element-preserving, invertible re-indexing whose rows / columns stay inside one slice.
-/
import Proofs.C03.Group
import Proofs.C03.Lemmas
import Proofs.C03.Clamp

namespace Quanto

/-! ## scale selection, one slice -/

/-- T1: the model's slice reduction computes the largest magnitude -/
theorem C03_absmax_value (xs : List Rat) (h : xs ≠ []) :
    foldSlice FV.max (xs.map fun x => FV.abs (.fin x)) = .fin (listAbsMax xs) := by
  cases xs with
  | nil => exact absurd rfl h
  | cons x xs =>
    rw [listAbsMax_cons, ← rabs_eq]
    exact foldl_FVmax_fin xs _

/-- the running maximum of the executable predicate `specC03Slice` is `listAbsMax` -/
theorem C03_absmax_spec_agrees (xs : List Rat) :
    xs.foldl (fun a x => ratMax a (rabs x)) 0 = listAbsMax xs :=
  specAmax_eq xs

/-- T2: the (unclamped) scale is finite and non-negative -/
theorem C03_scale_finite (F : Fmt) (hF : WorkFmt F) (qmax : Rat) (hq : 1 ≤ qmax) (xs : List Rat)
    (h : listAbsMax xs ≤ F.maxFin) :
    ∃ sq, F.div (.fin (listAbsMax xs)) (.fin qmax) = .fin sq ∧ 0 ≤ sq := by
  have ha := listAbsMax_nonneg xs
  have hs := div_qmax_fin F hF qmax hq _ ha h
  exact ⟨_, hs, scale_nonneg F hF qmax hq _ _ ha hs⟩

/-- T3: no element exceeds the representable range `sq·qmax` by more than rounding, for any finite
unclamped scale: relative term `2u`, absolute term `η·qmax·(1+2u)`.  With the absolute term `η·qmax`
the statement is false for float16 (`C03_nonsaturating_counterexample_f16`). -/
theorem C03_nonsaturating_partial (F : Fmt) (hF : WorkFmt F) (qmax : Rat) (hq : 1 ≤ qmax)
    (xs : List Rat) (sq : Rat) (h : F.div (.fin (listAbsMax xs)) (.fin qmax) = .fin sq) :
    ∀ x ∈ xs, |x| ≤ sq * qmax * (1 + 2 * F.u) + F.eta * qmax * (1 + 2 * F.u) := by
  obtain ⟨hq0, hz, h⟩ := quot_of_scale hq (listAbsMax_nonneg xs) h
  exact fun x hx =>
    (abs_le_of_absMax_div_le hq0 (le_of_fl_loose F hF hz h) x hx).trans_eq (by ring)

/-- T3 in the normal range of `F` (the scale does not underflow): no absolute term at all -/
theorem C03_nonsaturating_normal (F : Fmt) (hF : WorkFmt F) (qmax : Rat) (hq : 1 ≤ qmax)
    (xs : List Rat) (sq : Rat) (hn : pow2 F.emin ≤ listAbsMax xs / qmax)
    (h : F.div (.fin (listAbsMax xs)) (.fin qmax) = .fin sq) :
    ∀ x ∈ xs, |x| ≤ sq * qmax * (1 + 2 * F.u) := by
  obtain ⟨hq0, hz, h⟩ := quot_of_scale hq (listAbsMax_nonneg xs) h
  exact fun x hx =>
    (abs_le_of_absMax_div_le hq0 (le_of_fl_normal F hF hz hn h) x hx).trans_eq (by ring)

/-- T3 for the scale actually returned by the repaired optimizer (clamped to the smallest positive
value of `F`): the bound with the sharp absolute term `η·qmax` holds for every working format -/
theorem C03_nonsaturating_clamped (F : Fmt) (hF : WorkFmt F) (qmax : Rat) (hq : 1 ≤ qmax)
    (xs : List Rat) (sq : Rat) (h : absmaxOf F qmax true (.fin (listAbsMax xs)) = .fin sq) :
    ∀ x ∈ xs, |x| ≤ sq * qmax * (1 + 2 * F.u) + F.eta * qmax := by
  have hq0 := zero_lt_one.trans_le hq
  have ha := listAbsMax_nonneg xs
  obtain ⟨r, hr, rfl⟩ := absmaxOf_fin_inv F hF hq ha h
  have h2 := clamped_tight F hF _ r (div_nonneg ha hq0.le) hr
  exact fun x hx => (abs_le_of_absMax_div_le hq0 h2 x hx).trans_eq (by ring)

/-- T4: the (unclamped) scale wastes no range, up to rounding -/
theorem C03_fullrange (F : Fmt) (hF : WorkFmt F) (qmax : Rat) (hq : 1 ≤ qmax) (xs : List Rat)
    (sq : Rat) (h : F.div (.fin (listAbsMax xs)) (.fin qmax) = .fin sq) :
    sq ≤ listAbsMax xs / qmax * (1 + F.u) + F.eta := by
  obtain ⟨-, hz, h⟩ := quot_of_scale hq (listAbsMax_nonneg xs) h
  exact (fl_between F hF hz h).2

/-- T5: an all-zero slice gets a null (unclamped) scale — the recorded null-scale defect -/
theorem C03_zero_slice (F : Fmt) (hF : WorkFmt F) (qmax : Rat) (hq : 1 ≤ qmax) (xs : List Rat)
    (h : listAbsMax xs = 0) : F.div (.fin (listAbsMax xs)) (.fin qmax) = .fin 0 := by
  rw [h, div_fin F (zero_lt_one.trans_le hq).ne', zero_div]
  exact fl_zero F hF

/-- T5 for the repaired optimizer: an all-zero slice gets the smallest positive value of `F` -/
theorem C03_zero_slice_clamped (F : Fmt) (hF : WorkFmt F) (qmax : Rat) (hq : 1 ≤ qmax)
    (xs : List Rat) (h : listAbsMax xs = 0) :
    absmaxOf F qmax true (.fin (listAbsMax xs)) = .fin F.minPos := by
  rw [absmaxOf_true, C03_zero_slice F hF qmax hq xs h, clampMin_fin,
    max_eq_right (minPos_pos F).le]

/-- T12: the clamped scale is finite, at least the smallest positive value of `F`, and wastes no
range up to rounding -/
theorem C03_clamped_scale (F : Fmt) (hF : WorkFmt F) (qmax : Rat) (hq : 1 ≤ qmax) (a : Rat)
    (ha0 : 0 ≤ a) (ha : a ≤ F.maxFin) :
    ∃ sq, absmaxOf F qmax true (.fin a) = .fin sq ∧ F.minPos ≤ sq ∧
      sq ≤ a / qmax * (1 + F.u) + 2 * F.eta := by
  obtain ⟨-, hz0, hfl⟩ := quot_of_scale hq ha0 (div_qmax_fin F hF qmax hq a ha0 ha)
  refine ⟨_, absmaxOf_fin F hF qmax hq a ha0 ha, le_max_right _ _, max_le ?_ ?_⟩
  · exact (fl_between F hF hz0 hfl).2.trans
      (add_le_add le_rfl (le_mul_of_one_le_left F.eta_nonneg one_le_two))
  · exact (minPos_le F).trans
      (le_add_of_nonneg_left (mul_nonneg hz0 (add_nonneg zero_le_one F.u_nonneg)))

/-- T6: the executable predicate accepts the scale selected by the repaired optimizer -/
theorem C03_spec_slice_ok (F : Fmt) (hF : WorkFmt F) (qmax : Rat) (hq : 1 ≤ qmax) (xs : List Rat)
    (h : listAbsMax xs ≤ F.maxFin) :
    specC03Slice F qmax xs (absmaxOf F qmax true (.fin (listAbsMax xs))) = .ok := by
  have ha0 := listAbsMax_nonneg xs
  obtain ⟨sq, hsq, hmin, hfull⟩ := C03_clamped_scale F hF qmax hq _ ha0 h
  have hsat := C03_nonsaturating_clamped F hF qmax hq xs sq hsq
  rw [hsq]
  refine specC03Slice_ok_of F qmax xs sq ((minPos_pos F).le.trans hmin) (fun hz => ?_) hsat hfull
  rw [FV.fin.inj (hsq.symm.trans (C03_zero_slice_clamped F hF qmax hq xs hz))]
  exact minPos_le F

/-- the statement of T3 with the sharp absolute term is false for the unclamped float16 scale: the
quotient `a/127` with `a = 127·(2^-25 + 2^-49)` is rounded to float32 (`2^-25`, a tie) and then to
float16 (`0`, again a tie), so the scale is null although `a/127 > η` -/
theorem C03_nonsaturating_counterexample_f16 :
    f16.div (.fin (listAbsMax [2130706559 / 562949953421312])) (.fin 127) = .fin 0 ∧
      ¬ (|(2130706559 / 562949953421312 : Rat)| ≤ 0 * 127 * (1 + 2 * f16.u) + f16.eta * 127) := by
  decide +kernel

/-- the same at the level of the executable predicate (unclamped scale, float16) -/
theorem C03_spec_slice_counterexample_f16_unclamped :
    specC03Slice f16 127 [2130706559 / 562949953421312]
      (f16.div (.fin (2130706559 / 562949953421312)) (.fin 127)) = .saturates := by
  decide +kernel

/-- T7: the weight optimizer divides by 127 even for a float8 qtype (`qmax = 448`): the scale is
too large by a factor 3.5 — recorded defect -/
theorem C03_counterexample_float8_weights :
    specC03Slice f32 448 [1, -1, 1 / 2, 1 / 4] (f32.div (.fin 1) (.fin 127)) = .notFullRange := by
  decide +kernel

/-! ## tensor level: shape and locality -/

/-- T8: keepdim shape of the per-axis scale, scalar shape of the per-tensor scale -/
theorem C03_scale_shape (F : Fmt) (qmax : Rat) (t : T FV) (af c : Bool) :
    ((absmaxScale F qmax t (some af) c).shape = keptShape t.shape af ∧
      (absmaxScale F qmax t (some af) c).data.size = prod (keptShape t.shape af)) ∧
    ((absmaxScale F qmax t none c).shape = [] ∧ (absmaxScale F qmax t none c).data.size = 1) := by
  refine ⟨⟨rfl, ?_⟩, rfl, rfl⟩
  rw [absmaxScale_some, T.size_map, reduceSlices_size]
  rfl

/-- T9: a slice reduction at key `k` only reads the positions whose key is `k` -/
theorem C03_reduce_local (t t' : T FV) (af : Bool) (f : FV → FV → FV) (k : Nat)
    (hs : t.shape = t'.shape) (hd : t.data.size = t'.data.size)
    (h : ∀ n, n < t.data.size → keyAt t.shape af n = k → t.get n = t'.get n)
    (hk : k < prod (keptShape t.shape af)) :
    (reduceSlices t af f).get k = (reduceSlices t' af f).get k := by
  rw [reduceSlices_get t af f k hk, reduceSlices_get t' af f k (hs ▸ hk),
    sliceVals_congr t t' af k hs hd h]

/-- T10: the absmax scale of slice `k` depends on slice `k` only -/
theorem C03_absmax_local (F : Fmt) (qmax : Rat) (t t' : T FV) (af c : Bool) (k : Nat)
    (hs : t.shape = t'.shape) (hd : t.data.size = t'.data.size)
    (h : ∀ n, n < t.data.size → keyAt t.shape af n = k → t.get n = t'.get n)
    (hk : k < prod (keptShape t.shape af)) :
    (absmaxScale F qmax t (some af) c).get k = (absmaxScale F qmax t' (some af) c).get k := by
  rw [absmaxScale_get F qmax t af c k hk, absmaxScale_get F qmax t' af c k (hs ▸ hk),
    C03_reduce_local (t.map FV.abs) (t'.map FV.abs) af FV.max k hs
      (by rw [T.size_map, T.size_map]; exact hd) _ hk]
  intro n hn hkey
  rw [T.size_map] at hn
  rw [T.get_map _ _ _ hn, T.get_map _ _ _ (hd ▸ hn), h n hn hkey]

/-- T11: scale and zero-point of the `MaxOptimizer` for slice `k` depend on slice `k` only -/
theorem C03_maxopt_local (F : Fmt) (bits : Nat) (ext : Bool) (t t' : T FV) (af : Bool) (k : Nat)
    (hs : t.shape = t'.shape) (hd : t.data.size = t'.data.size)
    (h : ∀ n, n < t.data.size → keyAt t.shape af n = k → t.get n = t'.get n)
    (hk : k < prod (keptShape t.shape af)) :
    (maxOptimize F bits ext t af).scale.get k = (maxOptimize F bits ext t' af).scale.get k ∧
      (maxOptimize F bits ext t af).zero.get k = (maxOptimize F bits ext t' af).zero.get k := by
  have A := maxOptimize_get F bits ext t af k hk
  have B := maxOptimize_get F bits ext t' af k (hs ▸ hk)
  rw [← C03_reduce_local t t' af FV.min k hs hd h hk,
    ← C03_reduce_local t t' af FV.max k hs hd h hk] at B
  exact ⟨A.1.trans B.1.symm, A.2.trans B.2.symm⟩

/-! ## grouping -/

/-- G1: grouping keeps the number of elements -/
theorem C03_group_numel (shape : List Nat) (af : Bool) (gs : Nat) (s : List Nat)
    (h : groupShape shape af gs = some s) : prod s = prod shape := by
  cases af with
  | true =>
    obtain ⟨hne, -, hdvd, rfl⟩ := groupShape_first_spec h
    have hp := prod_eq_head_mul_tail shape hne
    simp only [prod, Nat.mul_one]
    exact Nat.div_mul_cancel (hp ▸ Dvd.dvd.mul_left hdvd _)
  | false =>
    obtain ⟨-, -, hp, rfl⟩ := groupShape_last_spec h
    refine Eq.trans ?_ hp.symm
    simp only [prod, Nat.mul_one]
    ac_rfl

/-- G2 (axis 0): both index maps are the identity (a reshape) -/
theorem C03_group_src_first (shape : List Nat) (gs n : Nat) :
    groupSrc shape true gs n = n ∧ ungroupSrc shape true gs n = n :=
  ⟨rfl, rfl⟩

/-- G2 (axis -1): the two index maps are mutually inverse permutations of `[0, numel)` -/
theorem C03_group_src_inverse (shape : List Nat) (gs : Nat) (s : List Nat)
    (h : groupShape shape false gs = some s) :
    (∀ n, n < prod shape → groupSrc shape false gs (ungroupSrc shape false gs n) = n) ∧
      (∀ n, n < prod shape → ungroupSrc shape false gs (groupSrc shape false gs n) = n) := by
  obtain ⟨-, -, hp, -⟩ := groupShape_last_spec h
  simp only [groupSrc_last, ungroupSrc_last]
  exact ⟨fun n hn => gSrc3_uSrc3 _ _ _ n (hn.trans_eq hp),
    fun n hn => uSrc3_gSrc3 _ _ _ n (hn.trans_eq hp)⟩

/-- G2 (axis -1): the index maps stay inside `[0, numel)` -/
theorem C03_group_src_lt (shape : List Nat) (gs : Nat) (s : List Nat)
    (h : groupShape shape false gs = some s) (n : Nat) (hn : n < prod shape) :
    groupSrc shape false gs n < prod shape ∧ ungroupSrc shape false gs n < prod shape := by
  obtain ⟨-, -, hp, -⟩ := groupShape_last_spec h
  rw [groupSrc_last, ungroupSrc_last]
  exact ⟨(gSrc3_lt _ _ _ n (hn.trans_eq hp)).trans_eq hp.symm,
    (uSrc3_lt _ _ _ n (hn.trans_eq hp)).trans_eq hp.symm⟩

/-- G3: `ungroup` undoes `group` (whole tensor, including the `shape = orig` shortcut) -/
theorem C03_ungroup_group {α : Type} [Inhabited α] (t : T α) (af : Bool) (gs : Nat) (g : T α)
    (hwf : t.data.size = prod t.shape) (h : group t af gs = .ok g) :
    ungroup g af t.shape = t := by
  obtain ⟨s, hs, rfl⟩ := group_ok h
  have hn := C03_group_numel _ _ _ _ hs
  cases af with
  | true =>
    rw [T.gather_of_id t s _ (hwf.trans hn.symm) fun n _ => groupSrc_first _ _ n, ungroup_first]
  | false =>
    by_cases h1 : s = t.shape <;> obtain ⟨hD, -, -, rfl⟩ := groupShape_last_spec hs
    · -- the shortcut: grouped shape = original shape means a single group, and nothing moves
      have hG : prod t.shape / t.shape.getLastD 0 / gs = 1 :=
        Nat.eq_of_mul_eq_mul_left hD
          ((congrArg (fun l => List.getLastD l 0) h1).trans (Nat.mul_one _).symm)
      rw [ungroup_of_shape_eq _ _ _ h1,
        T.gather_of_id t _ _ (hwf.trans hn.symm) fun n _ => by rw [groupSrc_last, hG, gSrc3_one]]
      exact T.ext h1 rfl
    · rw [ungroup_last _ _ h1]
      show (t.gather _ _).gather t.shape (ungroupSrc t.shape false gs) = t
      rw [T.gather_gather _ _ _ _ _ fun n h => (C03_group_src_lt _ _ _ hs n h).2.trans_eq hn.symm,
        T.gather_of_id t _ _ hwf (C03_group_src_inverse _ _ _ hs).1]

/-- G4: row `n / gs` of the axis-0 grouped matrix lies inside one original first-axis index -/
theorem C03_group_key_first (shape : List Nat) (gs : Nat) (s : List Nat) (n : Nat)
    (h : groupShape shape true gs = some s) (_hn : n < prod shape) (_hne : shape ≠ []) :
    groupSrc shape true gs n / prod shape.tail = (n / gs) / (prod shape.tail / gs) := by
  obtain ⟨-, hgs, ⟨q, hq⟩, -⟩ := groupShape_first_spec h
  rw [groupSrc_first, hq, Nat.mul_div_cancel_left _ hgs, Nat.div_div_eq_div_mul]

/-- G5: column `n % (D·G)` of the axis -1 grouped matrix lies inside one original last-axis index -/
theorem C03_group_key_last (shape : List Nat) (gs : Nat) (s : List Nat) (n : Nat)
    (h : groupShape shape false gs = some s) (_hn : n < prod shape) :
    let D := shape.getLastD 0
    let G := prod shape / D / gs
    groupSrc shape false gs n % D = (n % (D * G)) / G := by
  obtain ⟨hD, hG, -, -⟩ := groupShape_last_spec h
  rw [groupSrc_last, gSrc3_eq]
  exact idx_mod _ _ _ ((Nat.div_lt_iff_lt_mul hG).2 (Nat.mod_lt _ (Nat.mul_pos hD hG)))

/-! ## non-vacuity -/

section NonVacuity
open C03Ex

example : groupShape [4, 6] false 2 = some [2, 12] := by decide

example : ∀ n, n < 24 → groupSrc [4, 6] false 2 (ungroupSrc [4, 6] false 2 n) = n :=
  (C03_group_src_inverse [4, 6] 2 [2, 12] (by decide)).1

/-- the permutation is not the identity: grouped position 1 reads original position 12 -/
example : groupSrc [4, 6] false 2 1 = 12 := by decide

example : group exT false 2 = .ok (exT.gather [2, 12] (groupSrc [4, 6] false 2)) := rfl

example : ungroup (exT.gather [2, 12] (groupSrc [4, 6] false 2)) false [4, 6] = exT :=
  C03_ungroup_group exT false 2 _ exT_wf rfl

example : (exT.gather [2, 12] (groupSrc [4, 6] false 2)).get 1 = .fin 12 := by decide +kernel

example : ∀ x ∈ [(1 / 3 : Rat), -2, 5 / 4],
    |x| ≤ 129 / 8192 * 127 * (1 + 2 * f16.u) + f16.eta * 127 * (1 + 2 * f16.u) :=
  C03_nonsaturating_partial f16 (by simp [WorkFmt]) 127 (by norm_num) _ _ exScale

example : (129 / 8192 : Rat) ≤ listAbsMax [1 / 3, -2, 5 / 4] / 127 * (1 + f16.u) + f16.eta :=
  C03_fullrange f16 (by simp [WorkFmt]) 127 (by norm_num) _ _ exScale

example : specC03Slice f16 127 [1 / 3, -2, 5 / 4]
    (absmaxOf f16 127 true (.fin (listAbsMax [1 / 3, -2, 5 / 4]))) = .ok :=
  C03_spec_slice_ok f16 (by simp [WorkFmt]) 127 (by norm_num) _
    (by norm_num [listAbsMax, f16_maxFin])

end NonVacuity

end Quanto
