/-
Property C01 — 8-bit symmetric quantization maps every element to a nearest point of the
value grid, saturates instead of wrapping, dequantizes to `fl(s·c)` and is idempotent on
dequantized values (under the stated side conditions).
-/
import Proofs.C01.Lemmas
import Proofs.Tensor.Basic

namespace Quanto

/-- T1: the stored code is a finite value of the grid. -/
theorem C01_code_in_grid (F : Fmt) (hF : WorkFmt F) (Q : QT) (x s : Rat) (hs : 0 < s) :
    ∃ c, symCode F Q (.fin x) (.fin s) = .fin c ∧ Q.InGrid c := by
  obtain ⟨r, h, -⟩ := symCode_eq_codeOf_near F hF Q x s hs
  exact ⟨_, h, codeOf_inGrid Q r⟩

/-- T2: saturation at the top of the grid (no wrap-around). -/
theorem C01_saturates_hi (F : Fmt) (hF : WorkFmt F) (Q : QT) (x s : Rat) (hs : 0 < s)
    (h : Q.qmax ≤ x / s) : symCode F Q (.fin x) (.fin s) = .fin Q.qmax := by
  obtain ⟨r, hc, -, hhi, -⟩ := symCode_eq_codeOf_near F hF Q x s hs
  rw [hc, codeOf_sat_hi Q r (hhi h)]

/-- T3: saturation at the bottom of the grid. -/
theorem C01_saturates_lo (F : Fmt) (hF : WorkFmt F) (Q : QT) (x s : Rat) (hs : 0 < s)
    (h : x / s ≤ Q.qmin) : symCode F Q (.fin x) (.fin s) = .fin Q.qmin := by
  obtain ⟨r, hc, -, -, hlo⟩ := symCode_eq_codeOf_near F hF Q x s hs
  rw [hc, codeOf_sat_lo Q r (hlo h)]

/-- T4: the dequantized value is, up to the rounding allowance `epsC01`, at least as close to
`x` as any scaled grid point. -/
theorem C01_nearest (F : Fmt) (hF : WorkFmt F) (Q : QT) (x s : Rat) (hs : 0 < s) :
    ∀ c y, symCode F Q (.fin x) (.fin s) = .fin c → symDeq F (.fin c) (.fin s) = .fin y →
      ∀ v, Q.InGrid v → |y - x| ≤ |s * v - x| + epsC01 F x s c := by
  intro c y hc hy v hv
  unfold epsC01
  rw [rabs_eq, rabs_eq]
  obtain ⟨r, hcode, hr, -, -⟩ := symCode_eq_codeOf_near F hF Q x s hs
  rw [hcode] at hc
  have hnear := codeOf_nearest Q r v hv
  rw [FV.fin.inj hc] at hnear
  -- nearest to the exact quotient up to twice its rounding error; then in the units of `x`
  have h1 := mul_le_mul_of_nonneg_right (nearest_perturb hnear hr) hs.le
  rw [← abs_mul_sub hs, add_mul, ← abs_mul_sub hs, mul_comm c s, mul_comm v s] at h1
  have h2 : 2 * (F.u * |x / s| + F.eta) * s = 2 * F.u * |x| + 2 * s * F.eta := by
    rw [abs_div, abs_of_pos hs]; field_simp
  have tri : |y - x| ≤ |y - s * c| + |s * c - x| := abs_sub_le _ _ _
  linarith only [tri, h1, h2, symDeq_err F hF hs hy]

set_option linter.unusedVariables false in
/-- T5: the dequantized value is finite whenever the exact product is in range. -/
theorem C01_deq_finite (F : Fmt) (hF : WorkFmt F) (Q : QT) (x s : Rat) (hs : 0 < s) :
    ∀ c, s * |c| ≤ F.maxFin → ∃ y, symDeq F (.fin c) (.fin s) = .fin y := by
  intro c h
  refine ⟨F.flR (s * c), ?_⟩
  rw [symDeq_eq]
  apply fl_fin_of_le F hF
  rwa [abs_mul, abs_of_pos hs]

set_option linter.unusedVariables false in
/-- T6: the dequantized value is the rounding of the grid point `s·c`. -/
theorem C01_deq_is_grid_point (F : Fmt) (hF : WorkFmt F) (Q : QT) (x s : Rat) (hs : 0 < s) :
    ∀ c y, symDeq F (.fin c) (.fin s) = .fin y → |y - s * c| ≤ F.u * (s * |c|) + F.eta := by
  intro c y h
  exact symDeq_err F hF hs h

/-- T7: re-quantizing a dequantized int8 code with the same scale gives the code back, when the
product `s·n` is a normal number of the working format (float32 / float16). -/
theorem C01_idempotent_int8 (F : Fmt) (hF' : F = f32 ∨ F = f16) (s : Rat) (hs : 0 < s) :
    ∀ n : Int, -128 ≤ n → n ≤ 127 →
      (pow2 F.emin ≤ s * |(n : Rat)| ∨ n = 0) → s * |(n : Rat)| ≤ F.maxFin →
      ∀ y, symDeq F (.fin n) (.fin s) = .fin y → symCode F .qint8 (.fin y) (.fin s) = .fin n := by
  intro n hn1 hn2 hnorm _ y hy
  have hF := WorkFmt.of_f32_or_f16 hF'
  obtain ⟨hu, he⟩ := u_eta_small F hF'
  exact symCode_symDeq_int8 F hF hu he s hs n hn1 hn2 hnorm y hy

/-- T8 (strong form): re-quantizing a dequantized float8 code with the same scale gives the code
back, in every working format (float32, float16 and bfloat16), when the product `s·c` is a
normal number of the working format. -/
theorem C01_idempotent_float8_work (F : Fmt) (hF : WorkFmt F) (Q : QT)
    (hQ : Q = .e4m3 ∨ Q = .e5m2) (s : Rat) (hs : 0 < s) :
    ∀ c, Q.InGrid c → (pow2 F.emin ≤ s * |c| ∨ c = 0) → s * |c| ≤ F.maxFin →
      ∀ y, symDeq F (.fin c) (.fin s) = .fin y → symCode F Q (.fin y) (.fin s) = .fin c := by
  intro c hc hnorm _ y hy
  obtain ⟨hu, he⟩ := u_eta_work F hF
  have hQ' : Q.isFloat = true := by rcases hQ with rfl | rfl <;> rfl
  rcases eq_or_ne c 0 with rfl | hc0
  · rw [symDeq_zero F hF] at hy
    rw [← FV.fin.inj hy]; exact symCode_zero F hF Q hs
  obtain ⟨hb1, hb2⟩ := QT.inGrid_bounds hc
  obtain ⟨hrep, hcabs⟩ := (QT.inGrid_float hQ' c).mp hc
  rw [QT.qmin_float hQ'] at hb1
  have huc : F.u * |c| ≤ 1 / 250 * |c| := mul_le_mul_of_nonneg_right hu (abs_nonneg c)
  have huu : F.u * (F.u * |c|) ≤ 1 / 250 * (1 / 250 * |c|) :=
    mul_le_mul hu huc (mul_nonneg F.u_nonneg (abs_nonneg _)) (by norm_num)
  obtain ⟨d, hd, hclose⟩ := fl_div_near F hF hs
    (by linarith only [huc, hcabs, Q.qmax_le, work_maxFin_ge F hF])
    (symDeq_rel_err F hF hs hnorm hy)
  rw [symCode_of_fin F Q y s d hs.ne' hd, codeOf_float hQ']
  refine congrArg FV.fin (rndFin_eq_of_close _ Q.fmt_one_le_p hrep ?_)
  -- `|clamp d - c| ≤ |d - c| ≤ 0.00802·|c| + η`, and `34·η` is far below the smallest positive
  -- grid value `2^-16`
  have hclamp := abs_clamp_sub_le hb1 hb2 d
  have hmin := (Q.fmt_min_ge).trans (rep_abs_ge _ hrep hc0)
  rw [show pow2 (-16) = 1 / 65536 by norm_num [pow2_eq]] at hmin
  rw [show pow2 (-24) = 1 / 16777216 by norm_num [pow2_eq]] at he
  calc 2 * (pow2 (Q.fmt.p : Int) + 1) * |max (-Q.qmax) (min d Q.qmax) - c|
      ≤ 2 * (16 + 1) * |max (-Q.qmax) (min d Q.qmax) - c| :=
        mul_le_mul_of_nonneg_right (by linarith only [Q.fmt_pow2_p_le]) (abs_nonneg _)
    _ ≤ |c| := by linarith only [hclamp, hclose, huc, huu, hmin, he]

/-- T8: the float8 idempotence statement with the same format hypothesis as T7. -/
theorem C01_idempotent_float8 (F : Fmt) (hF' : F = f32 ∨ F = f16) (Q : QT)
    (hQ : Q = .e4m3 ∨ Q = .e5m2) (s : Rat) (hs : 0 < s) :
    ∀ c, Q.InGrid c → (pow2 F.emin ≤ s * |c| ∨ c = 0) → s * |c| ≤ F.maxFin →
      ∀ y, symDeq F (.fin c) (.fin s) = .fin y → symCode F Q (.fin y) (.fin s) = .fin c :=
  C01_idempotent_float8_work F (.of_f32_or_f16 hF') Q hQ s hs

/-- T9: the tensor-level quantizer applies the scalar quantizer at every position of the
broadcast shape. -/
theorem C01_tensor (F : Fmt) (Q : QT) (x : T FV) (axis : Option Int) (scale : T FV) (qb : QBytes)
    (h : symQuantize F Q x axis scale = .ok qb) :
    qb.size = x.shape ∧ qb.scale = scale ∧
      ∃ out, bcastShape x.shape scale.shape = some out ∧ qb.data.shape = out ∧
        ∀ n, n < prod out → qb.data.get n =
          symCode F Q (x.get (bcastSrc out x.shape n)) (scale.get (bcastSrc out scale.shape n)) := by
  unfold symQuantize at h
  split at h
  · cases h
  · split at h
    · cases h
    · rename_i out hout
      cases h
      exact ⟨rfl, rfl, out, hout, rfl, fun n hn => T.get_ofFn _ _ _ hn⟩

/-- T10: every element of the executable grid `Q.grid` (the list over which `specC01` runs its
`grid.all …` check) is a mathematical grid value, so `C01_nearest` applies to each of them
(`specC01` itself is evaluated by no theorem of this file). -/
theorem C01_grid_sound (Q : QT) : ∀ v, v ∈ Q.grid → Q.InGrid v := by
  intro v hv
  cases Q
  · simp only [QT.grid, List.mem_map, List.mem_range] at hv
    obtain ⟨n, hn, rfl⟩ := hv
    exact ⟨(n : Int) - 128, rfl, by omega, by omega⟩
  · exact gridB_sound _ _ _ (List.all_eq_true.mp grid_e4m3_check v hv)
  · exact gridB_sound _ _ _ (List.all_eq_true.mp grid_e5m2_check v hv)

/-- T12: for qint8 the executable grid is exactly the mathematical one. -/
theorem C01_grid_complete_int8 : ∀ v, QT.InGrid .qint8 v → v ∈ QT.grid .qint8 := by
  rintro _ ⟨n, rfl, h1, h2⟩
  simp only [QT.grid, List.mem_map, List.mem_range]
  refine ⟨(n + 128).toNat, by omega, ?_⟩
  congr 1
  omega

/-- T11a (defect): a finite input whose dequantized value overflows to `+inf` in float16. -/
theorem C01_counterexample_deq_overflow :
    symDeq f16 (symCode f16 .qint8 (.fin 65504) (.fin 1000)) (.fin 1000) = .pinf := by
  decide +kernel

/-- T11b (defect): with a subnormal scale the dequantized value of the e4m3 code 3/2 is
re-quantized to a different code (2). -/
theorem C01_counterexample_idem_subnormal :
    symDeq f16 (.fin (3 / 2)) (.fin (pow2 (-24))) = .fin (2 * pow2 (-24)) ∧
    symCode f16 .e4m3 (.fin (2 * pow2 (-24))) (.fin (pow2 (-24))) = .fin 2 := by
  decide +kernel

/-- why T7 excludes bfloat16: with the bfloat16 scale 213/128 the int8 code 91 dequantizes to 151
(a normal product) and is re-quantized to 90. -/
theorem C01_counterexample_idem_int8_bf16 :
    symDeq bf16 (.fin 91) (.fin (213 / 128)) = .fin 151 ∧
    symCode bf16 .qint8 (.fin 151) (.fin (213 / 128)) = .fin 90 := by
  decide +kernel

/-! ### non-vacuity: concrete instances satisfy the hypotheses of T4, T7 and T8 -/

/-- T4 instantiated at float16 / qint8, x = 1/3, s = 1/100 (code 33, dequantized 169/512). -/
example : |(169 / 512 : Rat) - 1 / 3| ≤
    |(1 / 100 : Rat) * 33 - 1 / 3| + epsC01 f16 (1 / 3) (1 / 100) 33 :=
  C01_nearest f16 (by simp [WorkFmt]) .qint8 (1 / 3) (1 / 100) (by norm_num) 33 (169 / 512)
    (by decide +kernel) (by decide +kernel) 33 ⟨33, by norm_num, by omega, by omega⟩

/-- T4 instantiated at bfloat16 / e5m2, x = -7, s = 1/1000 (code -7168, dequantized -229/32),
compared with the grid value 57344. -/
example : |(-229 / 32 : Rat) - (-7)| ≤
    |(1 / 1000 : Rat) * 57344 - (-7)| + epsC01 bf16 (-7) (1 / 1000) (-7168) :=
  C01_nearest bf16 (by simp [WorkFmt]) .e5m2 (-7) (1 / 1000) (by norm_num) (-7168) (-229 / 32)
    (by decide +kernel) (by decide +kernel) 57344 (QT.inGrid_qmax .e5m2)

/-- T7 instantiated at float16, s = 1/100, n = 33. -/
example : symCode f16 .qint8 (.fin (169 / 512)) (.fin (1 / 100)) = .fin ((33 : Int) : Rat) :=
  C01_idempotent_int8 f16 (Or.inr rfl) (1 / 100) (by norm_num) 33 (by omega) (by omega)
    (Or.inl (by norm_num [f16, pow2_eq])) (by rw [f16_maxFin]; norm_num) (169 / 512)
    (by decide +kernel)

/-- T8 instantiated at float16 / e4m3, s = 1/100, c = 32. -/
example : symCode f16 .e4m3 (.fin (1311 / 4096)) (.fin (1 / 100)) = .fin 32 :=
  C01_idempotent_float8 f16 (Or.inr rfl) .e4m3 (Or.inl rfl) (1 / 100) (by norm_num) 32
    ⟨⟨1, 5, by norm_num, by decide, by decide⟩, by norm_num [QT.qmax]⟩
    (Or.inl (by norm_num [f16, pow2_eq])) (by rw [f16_maxFin]; norm_num) (1311 / 4096)
    (by decide +kernel)

end Quanto
