/-
C08 — `quantize(model, modules=…, weights=…, activations=…)` replaces, in place and at any nesting
depth, exactly the Linear and Conv2d modules (and LayerNorm only when activations are quantized)
selected by the optional filter, and leaves every other module untouched; plus the decision
table of `QModuleMixin.forward`.
-/
import Quanto.Tables
import Quanto.Generated
import Proofs.C08.Flat
namespace Quanto
open C08

/-- a leaf outside the filter is kept -/
theorem C08_unselected_leaf_kept (a : QuantizeArgs) (id : Nat) (k : LeafKind) (q : Option QCfg)
    (h : selected a id = false) : quantizeTree a (.leaf id k q) = .leaf id k q := by
  rw [quantizeTree_leaf]; simp [h]

/-! ### T1 — exactly the selected eligible leaves are swapped, at any depth -/

theorem C08_exact_swap (a : QuantizeArgs) (t : Mod) (path : List String) :
    match t.at? path with
    | some (.leaf id k q) =>
      (quantizeTree a t).at? path =
        some (if selected a id && eligible a k then .leaf id k (some (twinCfg a k)) else .leaf id k q)
    | some (.node id cls cs) =>
      ∃ cs', (quantizeTree a t).at? path = some (.node id cls cs') ∧ cs'.map (·.1) = cs.map (·.1)
    | none => (quantizeTree a t).at? path = none := by
  rw [Mod.at?_quantizeTree]
  exact swapSpec_map a _

/-- the three cases of `C08_exact_swap` as separate implications -/
theorem C08_exact_swap_leaf (a : QuantizeArgs) (t : Mod) (path : List String) (id : Nat)
    (k : LeafKind) (q : Option QCfg) (h : t.at? path = some (.leaf id k q)) :
    (quantizeTree a t).at? path =
      some (if selected a id && eligible a k then .leaf id k (some (twinCfg a k)) else .leaf id k q) := by
  have := C08_exact_swap a t path
  rwa [h] at this

theorem C08_exact_swap_node (a : QuantizeArgs) (t : Mod) (path : List String) (id : Nat)
    (cls : String) (cs : List (String × Mod)) (h : t.at? path = some (.node id cls cs)) :
    ∃ cs', (quantizeTree a t).at? path = some (.node id cls cs') ∧ cs'.map (·.1) = cs.map (·.1) := by
  have := C08_exact_swap a t path
  rwa [h] at this

theorem C08_exact_swap_none (a : QuantizeArgs) (t : Mod) (path : List String)
    (h : t.at? path = none) : (quantizeTree a t).at? path = none := by
  have := C08_exact_swap a t path
  rwa [h] at this

/-- the children of a container are the quantized children, under the same names -/
theorem C08_children_mapped (a : QuantizeArgs) (id : Nat) (cls : String) (cs : List (String × Mod)) :
    quantizeTree a (.node id cls cs) = .node id cls (cs.map fun p => (p.1, quantizeTree a p.2)) := by
  rw [quantizeTree_node, quantizeChildren_eq_map]

/-! ### T2 — classes, names, order and identities are preserved -/

theorem C08_structure_preserved (a : QuantizeArgs) (t : Mod) :
    (quantizeTree a t).skeleton = t.skeleton ∧ (quantizeTree a t).ids = t.ids :=
  ⟨skeleton_quantizeTree a t, ids_quantizeTree a t⟩

/-! ### T3 — a configuration changes only on a selected eligible leaf -/

theorem C08_only_eligible_change (a : QuantizeArgs) (t : Mod) (path : List String) (id : Nat)
    (k : LeafKind) (q q' : Option QCfg)
    (h' : (quantizeTree a t).at? path = some (.leaf id k q'))
    (h : t.at? path = some (.leaf id k q)) (hne : q' ≠ q) :
    selected a id = true ∧ eligible a k = true ∧ q' = some (twinCfg a k) := by
  have hs := C08_exact_swap_leaf a t path id k q h
  rw [h'] at hs
  by_cases hc : (selected a id && eligible a k) = true
  · rw [if_pos hc] at hs
    cases hs
    exact ⟨(Bool.and_eq_true _ _ ▸ hc).1, (Bool.and_eq_true _ _ ▸ hc).2, rfl⟩
  · rw [if_neg hc] at hs
    cases hs
    exact absurd rfl hne

/-- conversely an unselected or ineligible leaf keeps its configuration, wherever it sits -/
theorem C08_unselected_kept_at (a : QuantizeArgs) (t : Mod) (path : List String) (id : Nat)
    (k : LeafKind) (q : Option QCfg) (h : t.at? path = some (.leaf id k q))
    (hc : selected a id = false ∨ eligible a k = false) :
    (quantizeTree a t).at? path = some (.leaf id k q) := by
  rw [C08_exact_swap_leaf a t path id k q h]
  rcases hc with hc | hc <;> simp [hc]

/-! ### T4 — LayerNorm and unregistered classes -/

theorem C08_layernorm_needs_activations (a : QuantizeArgs) (id : Nat) (q : Option QCfg)
    (h : a.activations = none) : quantizeTree a (.leaf id .layerNorm q) = .leaf id .layerNorm q := by
  rw [quantizeTree_leaf]; simp [eligible, h]

theorem C08_layernorm_never_quantizes_weights (a : QuantizeArgs) :
    (twinCfg a .layerNorm).weights = none := rfl

theorem C08_other_untouched (a : QuantizeArgs) (id : Nat) (c : String) (q : Option QCfg) :
    quantizeTree a (.leaf id (.other c) q) = .leaf id (.other c) q := by
  rw [quantizeTree_leaf]; simp [eligible]

/-- Linear / Conv2d twins carry both requested qtypes -/
theorem C08_linear_conv_twin (a : QuantizeArgs) (id : Nat) (k : LeafKind) (q : Option QCfg)
    (hk : k = .linear ∨ k = .conv2d) (hs : selected a id = true) :
    quantizeTree a (.leaf id k q) = .leaf id k (some ⟨a.weights, a.activations⟩) := by
  rw [quantizeTree_leaf]
  rcases hk with rfl | rfl <;> simp [eligible, twinCfg, hs]

/-! ### T5 — idempotence -/

theorem C08_quantize_idempotent (a : QuantizeArgs) (t : Mod) :
    quantizeTree a (quantizeTree a t) = quantizeTree a t :=
  quantizeTree_idem a t

/-! ### T6 — the decision table of `QModuleMixin.forward` -/

theorem C08_forward_cases (kind : LeafKind) (hk : kind = .linear ∨ kind = .conv2d) :
    (∀ inp o, forwardTrace kind false inp o = [.qforward]) ∧
    forwardTrace kind true .float none = [.quantizeInput, .qforward, .quantizeOutput] ∧
    forwardTrace kind true .quantSameQtype none = [.qforward, .quantizeOutput] ∧
    (∀ o, ∃ rest, forwardTrace kind true .quantOther o = .requantInput :: .qforward :: rest) := by
  refine ⟨fun inp o => rfl, ?_, ?_, fun o => ⟨_, rfl⟩⟩ <;> rcases hk with rfl | rfl <;> rfl

/-- the output side of the table: nothing / requantize / quantize according to what `qforward` returned -/
theorem C08_forward_output_cases (kind : LeafKind) (inp : InKind) :
    (forwardTrace kind true inp (some true)).getLast? = some .qforward ∧
    forwardTrace kind true inp (some false) = forwardTrace kind true inp (some true) ++ [.requantOutput] ∧
    forwardTrace kind true inp none = forwardTrace kind true inp (some true) ++ [.quantizeOutput] := by
  simp [forwardTrace]

/-- the trace of a QLayerNorm never contains the input quantization step -/
theorem C08_forward_layernorm (acts : Bool) (inp : InKind) (o : Option Bool) :
    Step.quantizeInput ∉ forwardTrace .layerNorm acts inp o := by
  cases acts <;> cases inp <;> rcases o with _ | _ | _ <;> decide

/-- every trace runs `qforward` exactly once -/
theorem C08_forward_once (kind : LeafKind) (acts : Bool) (inp : InKind) (o : Option Bool) :
    (forwardTrace kind acts inp o).count .qforward = 1 := by
  simp only [forwardTrace, List.count_append]
  rw [count_optional_step (by decide), count_optional_step (by decide)]
  rcases o with _ | _ | _ <;> cases acts <;> rfl

/-! ### non-vacuity: a three-level model, filter `[1, 3]`, no activation quantization -/

def C08_exTree : Mod :=
  .node 0 "Sequential"
    [("0", .leaf 1 .linear none),
     ("1", .node 2 "Block" [("c0", .leaf 3 .layerNorm none), ("c1", .leaf 4 (.other "ReLU") none)])]

def C08_exArgs : QuantizeArgs := ⟨some [1, 3], some .qint8, none⟩

example : quantizeTree C08_exArgs C08_exTree =
    .node 0 "Sequential"
      [("0", .leaf 1 .linear (some ⟨some .qint8, none⟩)),
       ("1", .node 2 "Block" [("c0", .leaf 3 .layerNorm none), ("c1", .leaf 4 (.other "ReLU") none)])] := by
  decide +kernel

example : C08_exTree.at? ["1", "c0"] = some (.leaf 3 .layerNorm none) := by decide +kernel
example : (quantizeTree C08_exArgs C08_exTree).at? ["1", "c0"] = some (.leaf 3 .layerNorm none) := by decide +kernel
example : (quantizeTree C08_exArgs C08_exTree).at? ["0"] =
    some (.leaf 1 .linear (some ⟨some .qint8, none⟩)) := by decide +kernel
example : (quantizeTree C08_exArgs C08_exTree).at? ["1", "zz"] = none := by decide +kernel
example : C08_exTree.ids = [0, 1, 2, 3, 4] := by decide +kernel
example : (quantizeTree C08_exArgs C08_exTree).skeleton = C08_exTree.skeleton := rfl
/-- with activations the selected LayerNorm is swapped too, without weight quantization -/
example : (quantizeTree ⟨some [1, 3], some .qint8, some .qint8⟩ C08_exTree).at? ["1", "c0"] =
    some (.leaf 3 .layerNorm (some ⟨none, some .qint8⟩)) := by decide +kernel
/-- the hypotheses of `C08_only_eligible_change` are met at path `["0"]` -/
example : selected C08_exArgs 1 = true ∧ eligible C08_exArgs .linear = true ∧
    (some ⟨some .qint8, none⟩ : Option QCfg) = some (twinCfg C08_exArgs .linear) :=
  C08_only_eligible_change C08_exArgs C08_exTree ["0"] 1 .linear none _ (by decide +kernel) (by decide +kernel) (by decide +kernel)

/-- the live module registry is the one the model assumes (Linear, Conv2d, LayerNorm) -/
theorem C08_registry_pinned : Generated.qmoduleRegistry = modelQmoduleRegistry := rfl

/-! ### T7 — the loop `quantize()` actually runs (walk `named_modules()`, replace by dotted name) is the
structural map of T1–T6

`quantizeFlat` transcribes quantize.py: a left fold over the preorder list of (name, module) pairs that
replaces, through `set_module_by_name`, every module `quantize_module` accepts.  On every tree whose
sibling names are pairwise distinct (always so in Python: children live in a dict) it equals
`quantizeTree`, so T1–T6 are statements about the loop as written.  Exception: a model that is itself an eligible
leaf (path `[]`): `Mod.setAt _ []` swaps it, the code's `setattr(model, "", q)` destroys it instead (finding F18). -/

theorem C08_loop_refines_tree (a : QuantizeArgs) (t : Mod) (h : t.namesOk = true) :
    quantizeFlat a t = quantizeTree a t :=
  quantizeFlat_eq_tree a t h

/-- T1 for the loop: at any path, exactly the selected eligible leaves are swapped (at path `[]`, a root leaf,
this is the model's `setAt`, not what the code does) -/
theorem C08_loop_exact_swap_leaf (a : QuantizeArgs) (t : Mod) (h : t.namesOk = true)
    (path : List String) (id : Nat) (k : LeafKind) (q : Option QCfg)
    (hp : t.at? path = some (.leaf id k q)) :
    (quantizeFlat a t).at? path =
      some (if selected a id && eligible a k then .leaf id k (some (twinCfg a k)) else .leaf id k q) := by
  rw [C08_loop_refines_tree a t h]; exact C08_exact_swap_leaf a t path id k q hp

/-- the loop preserves classes, names, order and identities -/
theorem C08_loop_structure_preserved (a : QuantizeArgs) (t : Mod) (h : t.namesOk = true) :
    (quantizeFlat a t).skeleton = t.skeleton ∧ (quantizeFlat a t).ids = t.ids := by
  rw [C08_loop_refines_tree a t h]; exact C08_structure_preserved a t

/-- every name yielded by `named_modules()` resolves, through `get_submodule`, to the module it was
yielded with: `set_module_by_name(model, name, …)` replaces the module the loop is looking at -/
theorem C08_loop_names_resolve (t : Mod) (h : t.namesOk = true) :
    ∀ pm ∈ t.named, t.at? pm.1 = some pm.2 :=
  named_resolves t h

/-- no path is yielded twice: every `set_module_by_name` of the loop has its own target (paths, not dotted
names: with a dot inside a child name two paths can join to the same dotted name) -/
theorem C08_loop_names_distinct (t : Mod) (h : t.namesOk = true) : (t.named.map (·.1)).Nodup :=
  named_paths_nodup t h

/-- one iteration never touches anything for an unselected / ineligible leaf (for a container: `flatStep_node`) -/
theorem C08_loop_step_skips (a : QuantizeArgs) (cur : Mod) (p : List String) (id : Nat) (k : LeafKind)
    (q : Option QCfg) (h : (selected a id && eligible a k) = false) :
    flatStep a cur (p, .leaf id k q) = cur := by
  simp [flatStep, h]

/-- the hypothesis of T7 is needed: with two siblings of one name the loop writes the second module's
twin over the first (cannot arise in Python, where children are dict entries) -/
theorem C08_counterexample_duplicate_names :
    let t : Mod := .node 0 "Seq" [("a", .leaf 1 (.other "ReLU") none), ("a", .leaf 2 .linear none)]
    let a : QuantizeArgs := ⟨none, some .qint8, none⟩
    t.namesOk = false ∧ quantizeFlat a t ≠ quantizeTree a t := by
  decide +kernel

/-- non-vacuity: a nested tree with distinct sibling names, quantized by the loop -/
example :
    let t : Mod := .node 0 "Seq" [("0", .leaf 1 .linear none),
      ("1", .node 2 "Block" [("fc", .leaf 3 .linear none), ("ln", .leaf 4 .layerNorm none)])]
    t.namesOk = true ∧
    quantizeFlat ⟨some [3, 4], some .qint8, none⟩ t =
      .node 0 "Seq" [("0", .leaf 1 .linear none),
        ("1", .node 2 "Block" [("fc", .leaf 3 .linear (some ⟨some .qint8, none⟩)), ("ln", .leaf 4 .layerNorm none)])] := by
  decide +kernel

/-! ### T8 — `named_modules()` yields every module object once

`Mod.namedMemo` models the memo of `named_modules()`; when no object occurs twice (the identities met in
the traversal are pairwise distinct: a *tree*, the quantifier of C08) it yields exactly `Mod.named`, so
`quantizeLoop` — the loop over what `named_modules()` really yields — is the structural map. -/

theorem C08_memo_is_identity_on_trees (t : Mod) (h : (t.named.map fun pm => pm.2.rootId).Nodup) :
    t.namedMemo = t.named :=
  dedupFirst_eq_self t.named [] h (by simp)

theorem C08_quantize_loop_refines_tree (a : QuantizeArgs) (t : Mod) (hn : t.namesOk = true)
    (hi : (t.named.map fun pm => pm.2.rootId).Nodup) : quantizeLoop a t = quantizeTree a t := by
  unfold quantizeLoop
  rw [C08_memo_is_identity_on_trees t hi]
  exact C08_loop_refines_tree a t hn

/-- **Observation outside the quantifier of C08** (module *trees*): a module object reachable along two
paths (a shared / tied layer) is yielded once, so only the first reference is replaced; the second keeps
the float module (whose parameters `quantize()` has set to None — its forward then raises). -/
theorem C08_observation_shared_module_swapped_once :
    let lin : Mod := .leaf 1 .linear none
    let t : Mod := .node 0 "Sequential" [("0", lin), ("1", .leaf 2 (.other "ReLU") none), ("2", lin)]
    let r := quantizeLoop ⟨none, some .qint8, none⟩ t
    r.at? ["0"] = some (.leaf 1 .linear (some ⟨some .qint8, none⟩)) ∧ r.at? ["2"] = some lin := by
  decide +kernel

/-! ### T9 — the paths of two different leaves never extend one another

This is the hypothesis of `C10_model_roundtrip_paths` (C10 T8): the key prefixes of the quantized leaves of a
module tree are independent because of the tree, not by assumption. -/

theorem C08_leaf_paths_prefix_free (t : Mod) (h : t.namesOk = true) (p q : List String) (x m : Mod)
    (hp : (p, x) ∈ t.named) (hq : (q, m) ∈ t.named) (hx : x.isLeaf = true) (hm : m.isLeaf = true)
    (hne : p ≠ q) : ¬ p <+: q ∧ ¬ q <+: p :=
  ⟨fun hpre => hne (leaf_path_not_proper_prefix t h p q x m hp hq hx hpre).symm,
   fun hpre => hne (leaf_path_not_proper_prefix t h q p m x hq hp hm hpre)⟩

end Quanto
