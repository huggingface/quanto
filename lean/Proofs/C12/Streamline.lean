/-
The table of `recordCalls` as a closed form: after the calls, `get k` is the old mark or `requiredBy cs k`
(`get_recordCalls`), from the one-entry fact `QActTable.get_set`.
-/
import Quanto.Streamline
namespace Quanto

theorem QActTable.get_set (t : QActTable) (m k : Nat) (v : Bool) :
    (t.set m v).get k = if k = m then v else t.get k := by
  unfold QActTable.set QActTable.get
  by_cases h : k = m
  · simp [h]
  · rw [if_neg h, List.find?_cons_of_neg (by simpa using Ne.symm h), List.find?_filter]
    congr 2
    funext e
    by_cases he : e.1 = k
    · simp [he, h]
    · simp [he]

/-- one argument of one call -/
theorem QActTable.get_recordStep (t : QActTable) (q : Bool) (m k : Nat) :
    (if q then t.set m true else t.set m (t.get m)).get k = (t.get k || (q && k == m)) := by
  by_cases hk : k = m <;> cases q <;> simp [QActTable.get_set, hk]

theorem get_recordCall (t : QActTable) (c : FnCall) (k : Nat) :
    (recordCall t c).get k = (t.get k || (c.qinput && c.quantizedOutput && c.srcs.contains k)) := by
  unfold recordCall
  cases hq : c.qinput with
  | false => simp
  | true =>
  simp only [if_true, Bool.true_and]
  induction c.srcs generalizing t with
  | nil => simp
  | cons m ms ih =>
    rw [List.foldl_cons, ih, QActTable.get_recordStep, List.contains_cons, Bool.or_assoc, ← Bool.and_or_distrib_left]

theorem get_recordCalls (t : QActTable) (cs : List FnCall) (k : Nat) :
    (recordCalls t cs).get k = (t.get k || requiredBy cs k) := by
  unfold recordCalls requiredBy
  induction cs generalizing t with
  | nil => simp
  | cons c cs ih =>
    simp only [List.foldl_cons, List.any_cons]
    rw [ih, get_recordCall, Bool.or_assoc]

end Quanto
