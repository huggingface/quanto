/-
Helpers for property C12: `calibFold` and `updatedScale` case by case, the "sentinel never
interferes" predicate (prefix and recursive form), the error of the momentum's scalar casts
`float32(m)`, `float32(double(1 - m))`, the pure inequalities behind the convex-combination bound.
-/
import Quanto.Calib
import Proofs.Float.Work

namespace Quanto

/-! ### `calibFold` and `updatedScale` -/

theorem calibFold_nil (F : Fmt) (m : Rat) (s : FV) : calibFold F m [] s = s := rfl

theorem calibFold_cons (F : Fmt) (m : Rat) (e : ScaleEvent) (evs : List ScaleEvent) (s : FV) :
    calibFold F m (e :: evs) s = calibFold F m evs (applyEvent F m s e) := rfl

theorem calibFold_append (F : Fmt) (m : Rat) (a b : List ScaleEvent) (s : FV) :
    calibFold F m (a ++ b) s = calibFold F m b (calibFold F m a s) := by
  unfold calibFold; rw [List.foldl_append]

theorem calibFold_adopt (F : Fmt) (m : Rat) (evs rest : List ScaleEvent) (s init : FV) :
    calibFold F m (evs ++ .adopt s :: rest) init = calibFold F m rest s := by
  rw [calibFold_append]; rfl

theorem updatedScale_sentinel (F : Fmt) (m : Rat) (x : FV) : updatedScale F m (.fin 1) x = x := by
  simp [updatedScale]

theorem updatedScale_of_ne (F : Fmt) (m : Rat) {s : FV} (h : s ≠ .fin 1) (x : FV) :
    updatedScale F m s x = emaStep F m s x := by
  simp [updatedScale, h]

/-! ### the sentinel predicate -/

/-- the property's reading: no batch ever meets a buffer that (after at least one event) holds
the "not yet calibrated" sentinel 1 -/
def noSentinel (F : Fmt) (m : Rat) (evs : List ScaleEvent) : Prop :=
  ∀ (p : List ScaleEvent) (x : FV) (rest : List ScaleEvent),
    evs = p ++ .batch x :: rest → p ≠ [] → calibFold F m p ≠ .fin 1

/-- recursive, executable form on (current buffer value, remaining events) -/
def noSentinelFrom (F : Fmt) (m : Rat) : FV → List ScaleEvent → Bool
  | _, [] => true
  | s, .batch x :: rest => (s != .fin 1) && noSentinelFrom F m (emaStep F m s x) rest
  | _, .adopt s' :: rest => noSentinelFrom F m s' rest

theorem forall_prefix_cons {Q : List ScaleEvent → Prop} (e : ScaleEvent) (evs : List ScaleEvent) :
    (∀ p x rest, e :: evs = p ++ .batch x :: rest → Q p) ↔
      (∀ x, e = .batch x → Q []) ∧ ∀ p x rest, evs = p ++ .batch x :: rest → Q (e :: p) := by
  constructor
  · exact fun h =>
      ⟨fun x hx => h [] x evs (hx ▸ rfl), fun p x rest hp => h (e :: p) x rest (hp ▸ rfl)⟩
  · rintro ⟨h1, h2⟩ (_ | ⟨e', p⟩) x rest hp
    · exact h1 x (List.cons.inj hp).1
    · obtain ⟨rfl, hp'⟩ := List.cons.inj hp
      exact h2 p x rest hp'

theorem noSentinelFrom_cons (F : Fmt) (m : Rat) (s : FV) (e : ScaleEvent) (evs : List ScaleEvent) :
    noSentinelFrom F m s (e :: evs) = true ↔
      (∀ x, e = .batch x → s ≠ .fin 1) ∧ noSentinelFrom F m (applyEvent F m s e) evs = true := by
  cases e with
  | batch y =>
    simp only [noSentinelFrom, Bool.and_eq_true, bne_iff_ne, ScaleEvent.batch.injEq,
      forall_eq', applyEvent]
    exact and_congr_right fun hs => by rw [updatedScale_of_ne F m hs]
  | adopt s' => simp [noSentinelFrom, applyEvent]

/-- the recursive form, stated for a buffer value `s` reached after at least one event -/
theorem noSentinelFrom_iff (F : Fmt) (m : Rat) (s : FV) (evs : List ScaleEvent) :
    noSentinelFrom F m s evs = true ↔
      ∀ (p : List ScaleEvent) (x : FV) (rest : List ScaleEvent),
        evs = p ++ .batch x :: rest → calibFold F m p s ≠ .fin 1 := by
  induction evs generalizing s with
  | nil => simp [noSentinelFrom]
  | cons e evs ih => rw [noSentinelFrom_cons, forall_prefix_cons, ih]; rfl

theorem emaSpec_cons (F : Fmt) (m : Rat) (s : FV) (e : ScaleEvent) (evs : List ScaleEvent)
    (h : ∀ x, e = .batch x → s ≠ .fin 1) :
    emaSpec F m (e :: evs) (some s) = emaSpec F m evs (some (applyEvent F m s e)) := by
  cases e with
  | batch y => simp only [emaSpec, applyEvent, updatedScale_of_ne F m (h y rfl)]
  | adopt s' => rfl

theorem emaSpec_cons_none (F : Fmt) (m : Rat) (e : ScaleEvent) (evs : List ScaleEvent) :
    emaSpec F m (e :: evs) none = emaSpec F m evs (some (applyEvent F m (.fin 1) e)) := by
  cases e with
  | batch y => simp only [emaSpec, applyEvent, updatedScale_sentinel]
  | adopt s' => rfl

/-! ### the scalar casts of the momentum -/

theorem mul_fin_fin (F : Fmt) (a b : Rat) : F.mul (.fin a) (.fin b) = F.fl (.fin (a * b)) :=
  mul_fin F a b

theorem emaStep_fin (F : Fmt) (m s x : Rat) :
    emaStep F m (.fin s) (.fin x) =
      F.add (F.fl (.fin (f32.rndFin m * s))) (F.fl (.fin (x * f32.rndFin (f64.rndFin (1 - m))))) :=
  rfl

/-- `a ≈ m`, `b ≈ c ≈ 1 - m`: the two `u`-errors are relative to `m` and to `1 - m`, so together
they amount to one `u`; a second `v` absorbs the rest -/
theorem weight_sum_err {u v e m a b c : Rat} (hu : 0 ≤ u) (hv : 0 ≤ v) (hm0 : 0 ≤ m) (hm1 : m ≤ 1)
    (ha : |a - m| ≤ u * |m| + e) (hc : |c - (1 - m)| ≤ v * |1 - m| + e) (hb : |b - c| ≤ u * |c| + e)
    (hs : u * v + (3 + u) * e ≤ v) : |a + b - 1| ≤ u + 2 * v := by
  have e1 := err_comp hu hc hb
  rw [abs_of_nonneg (sub_nonneg.2 hm1)] at e1
  rw [abs_of_nonneg hm0] at ha
  have t := abs_add_le (a - m) (b - (1 - m))
  rw [show a - m + (b - (1 - m)) = a + b - 1 by ring] at t
  have h1 := mul_le_mul_of_nonneg_left (sub_le_self 1 hm0) (add_nonneg hv (mul_nonneg hu hv))
  linarith only [t, ha, e1, h1, hs]

theorem weights_bounds (m : Rat) (h0 : 0 ≤ m) (h1 : m ≤ 1) :
    0 ≤ f32.rndFin m ∧ 0 ≤ f32.rndFin (f64.rndFin (1 - m)) ∧
    |f32.rndFin m + f32.rndFin (f64.rndFin (1 - m)) - 1| ≤ pow2 (-24) + pow2 (-52) := by
  obtain ⟨ha0, -⟩ := rndFin_unit f32 (by decide) (by decide) h0 h1
  obtain ⟨hc0, hc1⟩ := rndFin_unit f64 (by decide) (by decide) (sub_nonneg.2 h1) (sub_le_self 1 h0)
  obtain ⟨hb0, -⟩ := rndFin_unit f32 (by decide) (by decide) hc0 hc1
  have e64 : f64.eta1 ≤ f32.eta1 := pow2_le_pow2 (by decide)
  refine ⟨ha0, hb0, ?_⟩
  rw [show pow2 (-24) + pow2 (-52) = f32.u1 + 2 * f64.u1 by norm_num [Fmt.u1, f32, f64, pow2_eq]]
  have hc := (rndFin_err f64 (1 - m)).trans (add_le_add le_rfl e64)
  exact weight_sum_err (e := f32.eta1) f32.u1_pos.le f64.u1_pos.le h0 h1 (rndFin_err f32 m) hc
    (rndFin_err f32 _) (by norm_num [Fmt.u1, Fmt.eta1, f32, f64, pow2_eq])

theorem weight_err_le (F : Fmt) (hF : WorkFmt F) :
    100 * (pow2 (-24) + pow2 (-52)) ≤ 101 * F.u := by
  -- `u ≥ u1 = 2^-p` with `p ≤ 24`; a half format has the float32 `2^-24` as a summand
  have h1 : pow2 (-24) ≤ F.u := by
    cases h : F.isHalf
    · rw [Fmt.u_of_not_half h]
      exact pow2_le_pow2 (neg_le_neg (Int.ofNat_le.2 (work_inF32 hF).p_le))
    · rw [Fmt.u_of_half h]
      exact le_add_of_le_of_nonneg (le_add_of_nonneg_left F.u1_pos.le)
        (mul_nonneg F.u1_pos.le f32.u1_pos.le)
  have h2 : 100 * pow2 (-52) ≤ pow2 (-24) := by norm_num [pow2_eq]
  linarith only [h1, h2]

/-! ### the pure inequalities -/

/-- `(1 + u)² (1 + k) = 1 + 2u + k + …` with `k ≤ 1.01 u` (`weight_err_le`): the factor `4` of the
bound leaves `0.99 u` for the second-order terms; `u ≤ 1/250` is what every working format satisfies
(`u_eta_work`), far more than needed -/
theorem ema_consts {u k : Rat} (hu0 : 0 ≤ u) (hu : 250 * u ≤ 1) (hk : 100 * k ≤ 101 * u) :
    (1 + u) ^ 2 ≤ 2 ∧ (1 + u) ^ 2 * (1 + k) ≤ 1 + 4 * u ∧
      1 - 4 * u ≤ (2 - (1 + u) ^ 2) * (1 - k) := by
  have h2 := mul_le_mul_of_nonneg_left hu hu0
  have h6 := mul_nonneg hu0 hu0
  have h3 := mul_le_mul_of_nonneg_left hu h6
  have h7 := mul_nonneg h6 hu0
  have c0 : (1 + u) ^ 2 ≤ 2 := by linarith only [hu, h2]
  have h4 := mul_le_mul_of_nonneg_left hk (sq_nonneg (1 + u))
  have h5 := mul_le_mul_of_nonneg_left hk (sub_nonneg.2 c0)
  refine ⟨c0, ?_, ?_⟩
  · linarith only [h2, h3, h4, hu0]
  · linarith only [h6, h7, h5, hu0]

/-- a rounded, nearly convex combination stays between its arguments: with weights that sum to `1`
up to `k` the exact combination `c = a s + x b` lies between `(1 - k) lo` and `(1 + k) hi`, and
`ema_consts` absorbs the factors `(1 + u)²`, `2 - (1 + u)²` of the rounding -/
theorem comb_round_between {u η k a b s x lo hi y : Rat} (hu0 : 0 ≤ u) (hu : 250 * u ≤ 1)
    (hη : 0 ≤ η) (hk : 100 * k ≤ 101 * u) (ha : 0 ≤ a) (hb : 0 ≤ b) (hab : |a + b - 1| ≤ k)
    (hlo : 0 ≤ lo) (h1 : lo ≤ s) (h2 : lo ≤ x) (h3 : s ≤ hi) (h4 : x ≤ hi)
    (h : |y - (a * s + x * b)| ≤ ((1 + u) ^ 2 - 1) * (a * s + x * b) + (3 + 2 * u) * η) :
    lo * (1 - 4 * u) - 4 * η ≤ y ∧ y ≤ hi * (1 + 4 * u) + 4 * η := by
  obtain ⟨c0, cu, cl⟩ := ema_consts hu0 hu hk
  obtain ⟨k1, k2⟩ := abs_le.mp hab
  obtain ⟨hl, hr⟩ := abs_le.mp h
  have hhi := (hlo.trans h1).trans h3
  have c1 : (1 - k) * lo ≤ a * s + x * b :=
    calc (1 - k) * lo ≤ (a + b) * lo := mul_le_mul_of_nonneg_right (by linarith only [k1]) hlo
      _ = a * lo + lo * b := by ring
      _ ≤ a * s + x * b :=
        add_le_add (mul_le_mul_of_nonneg_left h1 ha) (mul_le_mul_of_nonneg_right h2 hb)
  have c2 : a * s + x * b ≤ (1 + k) * hi :=
    calc a * s + x * b ≤ a * hi + hi * b :=
        add_le_add (mul_le_mul_of_nonneg_left h3 ha) (mul_le_mul_of_nonneg_right h4 hb)
      _ = (a + b) * hi := by ring
      _ ≤ (1 + k) * hi := mul_le_mul_of_nonneg_right (by linarith only [k2]) hhi
  have e := mul_le_mul_of_nonneg_right hu hη
  have a1 := mul_le_mul_of_nonneg_left c2 (sq_nonneg (1 + u))
  have a2 := mul_le_mul_of_nonneg_right cu hhi
  have b1 := mul_le_mul_of_nonneg_left c1 (sub_nonneg.2 c0)
  have b2 := mul_le_mul_of_nonneg_right cl hlo
  constructor
  · linarith only [hl, b1, b2, e, hη]
  · linarith only [hr, a1, a2, e, hη]
end Quanto
