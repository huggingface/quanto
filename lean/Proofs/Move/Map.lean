/-
What a movement operation does is fixed by the shape of its input: it raises, or keeps the data
under a new shape, or gathers along a source map that stays inside the input (`MoveOp.apply_spec`).
Commuting with elementwise maps, well-formedness of the result, shape-only success follow.
-/
import Quanto.Ops
import Proofs.Move.Index

namespace Quanto

variable {α β : Type} [Inhabited α] [Inhabited β]

/-- what a movement operation does once its guards have passed: the shape of the result and, unless
the data are kept as they are, the source position of each position of the result -/
structure Plan where
  out : List Nat
  src : Option (Nat → Nat)

/-- a plan for inputs of shape `s` keeps the number of elements, or reads inside the input -/
def Plan.Valid (s : List Nat) (p : Plan) : Prop :=
  match p.src with
  | none => prod p.out = prod s
  | some f => ∀ n, n < prod p.out → f n < prod s

def T.follow (t : T α) (p : Plan) : T α :=
  match p.src with
  | none => ⟨p.out, t.data⟩
  | some f => t.gather p.out f

theorem T.shape_follow (t : T α) (p : Plan) : (t.follow p).shape = p.out := by
  obtain ⟨out, _ | src⟩ := p <;> rfl

theorem T.follow_map (t : T α) (f : α → β) (hwf : t.data.size = prod t.shape) (p : Plan)
    (hp : p.Valid t.shape) : (t.follow p).map f = (t.map f).follow p := by
  obtain ⟨out, _ | src⟩ := p
  · rfl
  · exact T.gather_map t f out src (hwf ▸ hp)

theorem T.follow_wf (t : T α) (hwf : t.data.size = prod t.shape) (p : Plan) (hp : p.Valid t.shape) :
    (t.follow p).data.size = prod (t.follow p).shape := by
  obtain ⟨out, _ | src⟩ := p
  · exact hwf.trans hp.symm
  · exact T.size_gather t out src

theorem swap_mem (r a b : Nat) (ha : a < r) (hb : b < r) (k : Nat) (hk : k < r) :
    k ∈ (List.range r).map fun k => if k = a then b else if k = b then a else k := by
  simp only [List.mem_map, List.mem_range]
  by_cases h1 : k = a
  · refine ⟨b, hb, ?_⟩
    subst h1
    by_cases h2 : b = k
    · simp [h2]
    · simp [h2]
  · by_cases h2 : k = b
    · exact ⟨a, ha, by simp [h2]⟩
    · exact ⟨k, hk, by simp [h1, h2]⟩

theorem MoveOp.apply_spec (m : MoveOp) (s : List Nat) :
    (∀ {α : Type} [Inhabited α] (t : T α), t.shape = s → m.apply t = none) ∨
    ∃ p : Plan, p.Valid s ∧
      ∀ {α : Type} [Inhabited α] (t : T α), t.shape = s → m.apply t = some (t.follow p) := by
  cases m with
  | view s' =>
    by_cases h : prod s' = prod s
    · exact .inr ⟨⟨s', none⟩, h, fun t hs => by simp only [MoveOp.apply, T.view?, hs, if_pos h]; rfl⟩
    · exact .inl fun t hs => by simp only [MoveOp.apply, T.view?, hs, if_neg h]
  | permute p =>
    by_cases h : p.length = s.length ∧ (List.range s.length).all (fun a => p.contains a)
    · refine .inr ⟨⟨_, some _⟩, fun n hn => ?_, fun t hs => by
        simp only [MoveOp.apply, T.permute?, T.permute, hs, if_pos h]; rfl⟩
      refine permuteSrc_lt s p (fun a ha => ?_) n hn
      simpa using List.all_eq_true.1 h.2 a (List.mem_range.2 ha)
    · exact .inl fun t hs => by simp only [MoveOp.apply, T.permute?, hs, if_neg h]
  | transpose d0 d1 =>
    by_cases hab : ∃ a b, normDim s.length d0 = some a ∧ normDim s.length d1 = some b
    · obtain ⟨a, b, ha, hb⟩ := hab
      refine .inr ⟨⟨_, some _⟩, fun n hn => ?_, fun t hs => by
        simp only [MoveOp.apply, T.transpose?, T.permute, hs, ha, hb]; rfl⟩
      exact permuteSrc_lt s _
        (swap_mem _ a b (by simpa using normDim_lt ha) (by simpa using normDim_lt hb)) n hn
    · have key : ∀ {α : Type} [Inhabited α] (t : T α), t.shape = s → t.transpose? d0 d1 =
          if s.length = 0 ∧ (d0 = 0 ∨ d0 = -1) ∧ (d1 = 0 ∨ d1 = -1) then some t else none := by
        intro α _ t hs
        unfold T.transpose?
        rw [hs]
        split
        next a b ha hb => exact absurd ⟨a, b, ha, hb⟩ hab
        next => rfl
      by_cases h0 : s.length = 0 ∧ (d0 = 0 ∨ d0 = -1) ∧ (d1 = 0 ∨ d1 = -1)
      · exact .inr ⟨⟨s, none⟩, rfl, fun t hs => (key t hs).trans (by rw [if_pos h0, ← hs]; rfl)⟩
      · exact .inl fun t hs => (key t hs).trans (if_neg h0)
  | select dim idx =>
    cases hd : normDim s.length dim with
    | none => exact .inl fun t hs => by simp only [MoveOp.apply, T.select?, hs, hd]
    | some d =>
      by_cases hidx : idx < -((s.getD d 0 : Nat) : Int) ∨ idx ≥ ((s.getD d 0 : Nat) : Int)
      · exact .inl fun t hs => by simp only [MoveOp.apply, T.select?, hs, hd, if_pos hidx]
      · refine .inr ⟨⟨_, some _⟩, fun n hn => ?_, fun t hs => by
          simp only [MoveOp.apply, T.select?, hs, hd, if_neg hidx]; rfl⟩
        exact flat_lt _ _ (validIdx_listInsert s _ d _ (by simpa using normDim_lt hd)
          (valid_unflat _ n hn) (by split <;> omega))
  | slice dim start stop step =>
    cases hd : normDim s.length dim with
    | none => exact .inl fun t hs => by simp only [MoveOp.apply, T.slice?, hs, hd]
    | some d =>
      by_cases hstep : step = 0
      · exact .inl fun t hs => by simp only [MoveOp.apply, T.slice?, hs, hd, if_pos hstep]
      · refine .inr ⟨⟨_, some _⟩, fun n hn => ?_, fun t hs => by
          simp only [MoveOp.apply, T.slice?, hs, hd, if_neg hstep]; rfl⟩
        exact sliceSrc_lt s d _ _ step (by simpa using normDim_lt hd)
          (sliceBounds_spec (s.getD d 0) start stop).2 n hn hstep
  | unsqueeze dim =>
    cases hd : normDim s.length dim 1 with
    | none => exact .inl fun t hs => by simp only [MoveOp.apply, T.unsqueeze?, hs, hd]
    | some d =>
      exact .inr ⟨⟨_, none⟩, prod_listInsert_one s d, fun t hs => by
        simp only [MoveOp.apply, T.unsqueeze?, hs, hd]; rfl⟩
  | expand s' =>
    by_cases hl : s'.length < s.length
    · exact .inl fun t hs => by simp only [MoveOp.apply, T.expand?, hs, if_pos hl]
    · by_cases hz : ((padShape s'.length s).zip s').all (fun p => decide (p.1 = p.2 ∨ p.1 = 1)) = true
      · refine .inr ⟨⟨_, some _⟩, fun n hn => ?_, fun t hs => by
          simp only [MoveOp.apply, T.expand?, hs, if_neg hl, if_pos hz]; rfl⟩
        exact bcastSrc_lt s' s (by omega) hz n hn
      · exact .inl fun t hs => by simp only [MoveOp.apply, T.expand?, hs, if_neg hl, if_neg hz]

/-- on a well-sized tensor every movement operation commutes with every elementwise map -/
theorem move_map (m : MoveOp) (t : T α) (f : α → β) (hwf : t.data.size = prod t.shape) :
    (m.apply t).map (T.map f) = m.apply (t.map f) := by
  rcases m.apply_spec t.shape with h | ⟨p, hv, hp⟩
  · rw [h t rfl, h (t.map f) rfl]; rfl
  · rw [hp t rfl, hp (t.map f) rfl]; exact congrArg some (T.follow_map t f hwf p hv)

theorem move_wf (m : MoveOp) (t t' : T α) (hwf : t.data.size = prod t.shape)
    (h : m.apply t = some t') : t'.data.size = prod t'.shape := by
  rcases m.apply_spec t.shape with h0 | ⟨p, hv, hp⟩
  · rw [h0 t rfl] at h; cases h
  · rw [hp t rfl] at h; cases h; exact T.follow_wf t hwf p hv

theorem move_shape_only (m : MoveOp) (t : T α) (t' : T β) (hs : t.shape = t'.shape) :
    (m.apply t).map T.shape = (m.apply t').map T.shape := by
  rcases m.apply_spec t.shape with h | ⟨p, -, hp⟩
  · rw [h t rfl, h t' hs.symm]; rfl
  · rw [hp t rfl, hp t' hs.symm, Option.map_some, Option.map_some, T.shape_follow, T.shape_follow]

theorem move_isSome_shape_only (m : MoveOp) (t : T α) (t' : T β) (hs : t.shape = t'.shape) :
    (m.apply t).isSome = (m.apply t').isSome := by
  have := congrArg Option.isSome (move_shape_only m t t' hs)
  simpa using this

end Quanto
