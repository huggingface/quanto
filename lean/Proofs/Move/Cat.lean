/-
`cat`, `stack` and `split` commute with elementwise maps.
-/
import Proofs.Move.Map

namespace Quanto

variable {α β : Type}

/-- `find` returns a chunk index `k + i` and an offset `o` with `o ≤ c < o + size i` -/
theorem T.cat?.find_spec (c : Nat) : ∀ (rest : List Nat) (k off : Nat), off ≤ c →
    c < off + rest.sum →
    ∃ i, (T.cat?.find c k off rest).1 = k + i ∧ i < rest.length ∧
      (T.cat?.find c k off rest).2 ≤ c ∧ c < (T.cat?.find c k off rest).2 + rest.getD i 0
  | [], _, _, h1, h2 => absurd h1 (Nat.not_le_of_gt h2)
  | sz :: rs, k, off, h1, h2 => by
      rw [T.cat?.find.eq_2]
      split
      next hlt => exact ⟨0, rfl, Nat.zero_lt_succ _, h1, hlt⟩
      next hge =>
        rw [List.sum_cons, ← Nat.add_assoc] at h2
        obtain ⟨i, i1, i2, i3, i4⟩ :=
          T.cat?.find_spec c rs (k + 1) (off + sz) (Nat.le_of_not_gt hge) h2
        exact ⟨i + 1, by rw [i1, Nat.add_assoc, Nat.add_comm 1], Nat.succ_lt_succ i2, i3, i4⟩

/-! ### `cat?` in closed form -/

/-- the shape test of `cat?` -/
def catOK (ts : List (T α)) (t0 : T α) (d : Nat) : Bool :=
  ts.all fun t => decide (t.shape.length = t0.shape.length ∧ listSet t.shape d 0 = listSet t0.shape d 0)

def catSizes (ts : List (T α)) (d : Nat) : List Nat := ts.map fun t => t.shape.getD d 0

def catOut (ts : List (T α)) (t0 : T α) (d : Nat) : List Nat :=
  listSet t0.shape d ((catSizes ts d).foldl (fun x1 x2 => x1 + x2) 0)

theorem catOK_map (ts : List (T α)) (t0 : T α) (d : Nat) (f : α → β) :
    catOK (ts.map (T.map f)) (t0.map f) d = catOK ts t0 d := by
  unfold catOK
  rw [List.all_map]
  rfl

theorem catSizes_map (ts : List (T α)) (d : Nat) (f : α → β) :
    catSizes (ts.map (T.map f)) d = catSizes ts d := by
  unfold catSizes
  rw [List.map_map]
  rfl

theorem catOut_map (ts : List (T α)) (t0 : T α) (d : Nat) (f : α → β) :
    catOut (ts.map (T.map f)) (t0.map f) d = catOut ts t0 d := by
  unfold catOut
  rw [catSizes_map]
  rfl

variable [Inhabited α] [Inhabited β]

/-- the element function of `cat?` -/
def catElem (ts : List (T α)) (t0 : T α) (d : Nat) (sizes out : List Nat) (m : Nat) : α :=
  let oi := unflat out m
  let c := oi.getD d 0
  let r := T.cat?.find c 0 0 sizes
  let src := ts.toArray.getD r.1 t0
  src.get (flat src.shape (listSet oi d (c - r.2)))

theorem T.cat?_cons (t0 : T α) (rest : List (T α)) (dim : Int) :
    T.cat? (t0 :: rest) dim = (normDim t0.shape.length dim).bind fun d =>
      if !(catOK (t0 :: rest) t0 d) then none else
      some (T.ofFn (catOut (t0 :: rest) t0 d)
        (catElem (t0 :: rest) t0 d (catSizes (t0 :: rest) d) (catOut (t0 :: rest) t0 d))) := by
  rw [T.cat?.eq_2]
  cases normDim t0.shape.length dim <;> rfl

theorem catElem_map (ts : List (T α)) (t0 : T α) (f : α → β) (d : Nat) (hd : d < t0.shape.length)
    (hok : catOK ts t0 d = true) (hwf : ∀ t ∈ ts, t.data.size = prod t.shape) (m : Nat)
    (hm : m < prod (catOut ts t0 d)) :
    catElem (ts.map (T.map f)) (t0.map f) d (catSizes ts d) (catOut ts t0 d) m =
      f (catElem ts t0 d (catSizes ts d) (catOut ts t0 d) m) := by
  unfold catElem
  simp only [Array.getD_eq_getD_getElem?, List.getElem?_toArray, List.getElem?_map, Option.getD_map]
  have hlen : (catOut ts t0 d).length = t0.shape.length := length_listSet _ _ _
  -- the coordinate along `d` is below the total size, so `find` finds its input
  have hc := unflat_getD_lt (catOut ts t0 d) m d hm (hlen ▸ hd)
  rw [show (catOut ts t0 d).getD d 0 = _ from getD_listSet _ _ _ _, if_pos ⟨rfl, hd⟩] at hc
  obtain ⟨i, f1, f2, f3, f4⟩ := T.cat?.find_spec _ (catSizes ts d) 0 0 (Nat.zero_le _)
    (by rwa [Nat.zero_add, List.sum_eq_foldl])
  generalize T.cat?.find ((unflat (catOut ts t0 d) m).getD d 0) 0 0 (catSizes ts d) = r at *
  rw [Nat.zero_add] at f1
  subst f1
  have hr : r.1 < ts.length := by rwa [catSizes, List.length_map] at f2
  rw [List.getElem?_eq_getElem hr, Option.getD_some]
  have hmem : ts[r.1] ∈ ts := List.getElem_mem hr
  have hshape := of_decide_eq_true (List.all_eq_true.1 hok _ hmem)
  rw [show (catSizes ts d).getD r.1 0 = ts[r.1].shape.getD d 0 by
    simp [catSizes, List.getD_eq_getElem?_getD, hr]] at f4
  rw [T.shape_map]
  apply T.get_map
  rw [hwf _ hmem]
  refine flat_lt _ _ (validIdx_listSet _ _ _ d _ (valid_unflat _ m hm) (hshape.1.trans hlen.symm)
    (fun k hk => ?_) fun _ => by omega)
  -- off the axis `d` the chunk has the dimensions of `t0`, which are those of the output
  have := congrArg (·.getD k 0) hshape.2
  simp only [getD_listSet, if_neg fun e : k = d ∧ _ => hk e.1] at this
  rw [this, catOut, getD_listSet, if_neg fun e => hk e.1]

theorem T.cat?_map (ts : List (T α)) (f : α → β) (hwf : ∀ t ∈ ts, t.data.size = prod t.shape)
    (dim : Int) : (T.cat? ts dim).map (T.map f) = T.cat? (ts.map (T.map f)) dim := by
  cases ts with
  | nil => rfl
  | cons t0 rest =>
    rw [T.cat?_cons, show T.cat? (List.map (T.map f) (t0 :: rest)) dim =
      T.cat? (t0.map f :: rest.map (T.map f)) dim from rfl, T.cat?_cons, ← List.map_cons,
      Option.map_bind]
    simp only [catOK_map, catSizes_map, catOut_map]
    refine Option.bind_congr fun d hd => ?_
    by_cases hok : catOK (t0 :: rest) t0 d = true
    · simp only [hok, Bool.not_true, Bool.false_eq_true, if_false, Function.comp_apply,
        Option.map_some, T.map_ofFn]
      exact congrArg some (T.ofFn_congr _ _ _ fun m hm =>
        (catElem_map _ _ f d (by simpa using normDim_lt hd) hok hwf m hm).symm)
    · simp only [hok, Bool.not_false, if_true, Function.comp_apply, Option.map_none]

theorem mapM_option_map {γ γ' δ δ' : Type} (g : γ → Option δ) (g' : γ' → Option δ') (h1 : γ → γ')
    (h2 : δ → δ') (l : List γ) (hg : ∀ x ∈ l, g' (h1 x) = (g x).map h2) :
    (l.map h1).mapM g' = (l.mapM g).map (List.map h2) := by
  induction l with
  | nil => rfl
  | cons a l ih =>
    rw [List.map_cons, List.mapM_cons, List.mapM_cons, hg a List.mem_cons_self,
      ih fun x hx => hg x (List.mem_cons_of_mem a hx)]
    cases g a with
    | none => rfl
    | some b => cases l.mapM g <;> rfl

theorem mapM_option_mem {γ δ : Type} (g : γ → Option δ) (l : List γ) (r : List δ)
    (h : l.mapM g = some r) : ∀ u ∈ r, ∃ x ∈ l, g x = some u := by
  induction l generalizing r with
  | nil => cases h; nofun
  | cons a l ih =>
    rw [List.mapM_cons] at h
    obtain ⟨b, hb, h⟩ := Option.bind_eq_some_iff.1 h
    obtain ⟨bs, hbs, h⟩ := Option.bind_eq_some_iff.1 h
    cases h
    intro u hu
    rcases List.mem_cons.1 hu with rfl | hu
    · exact ⟨a, List.mem_cons_self, hb⟩
    · obtain ⟨x, hx, hxu⟩ := ih bs hbs u hu
      exact ⟨x, List.mem_cons_of_mem a hx, hxu⟩

theorem T.cat?_wf (ts : List (T α)) (dim : Int) (r : T α) (h : T.cat? ts dim = some r) :
    r.data.size = prod r.shape := by
  cases ts with
  | nil => cases h
  | cons t0 rest =>
    rw [T.cat?_cons] at h
    obtain ⟨d, -, h⟩ := Option.bind_eq_some_iff.1 h
    split at h
    · cases h
    · cases h; exact T.size_ofFn _ _

theorem T.stack?_map (ts : List (T α)) (f : α → β) (hwf : ∀ t ∈ ts, t.data.size = prod t.shape)
    (dim : Int) : (T.stack? ts dim).map (T.map f) = T.stack? (ts.map (T.map f)) dim := by
  cases ts with
  | nil => rfl
  | cons t0 rest =>
    rw [T.stack?.eq_2, show T.stack? (List.map (T.map f) (t0 :: rest)) dim =
      T.stack? (t0.map f :: rest.map (T.map f)) dim from rfl, T.stack?.eq_2, ← List.map_cons,
      T.shape_map]
    have hall : ((t0 :: rest).map (T.map f)).all (fun t => decide (t.shape = t0.shape)) =
        (t0 :: rest).all (fun t => decide (t.shape = t0.shape)) := by
      rw [List.all_map]; rfl
    rw [hall, mapM_option_map (fun t : T α => t.unsqueeze? dim) (fun t : T β => t.unsqueeze? dim) (T.map f)
      (T.map f) _ (fun x hx => (move_map (.unsqueeze dim) x f (hwf x hx)).symm)]
    by_cases hc : (!(t0 :: rest).all (fun t => decide (t.shape = t0.shape))) = true
    · rw [if_pos hc, if_pos hc]; rfl
    · rw [if_neg hc, if_neg hc]
      cases hus : (t0 :: rest).mapM (fun t => t.unsqueeze? dim) with
      | none => rfl
      | some us =>
        apply T.cat?_map
        intro u hu
        obtain ⟨x, hx, hxu⟩ := mapM_option_mem _ _ _ hus u hu
        exact move_wf (.unsqueeze dim) x u (hwf x hx) hxu

theorem T.stack?_wf (ts : List (T α)) (dim : Int) (r : T α) (h : T.stack? ts dim = some r) :
    r.data.size = prod r.shape := by
  cases ts with
  | nil => cases h
  | cons t0 rest =>
    rw [T.stack?.eq_2] at h
    split at h
    · cases h
    · split at h
      · cases h
      · exact T.cat?_wf _ _ _ h

theorem T.split?_map (t : T α) (f : α → β) (hwf : t.data.size = prod t.shape) (sz : Nat) (dim : Int) :
    (t.split? sz dim).map (List.map (T.map f)) = (t.map f).split? sz dim := by
  unfold T.split?
  rw [T.shape_map]
  cases normDim t.shape.length dim with
  | none => rfl
  | some d =>
    simp only []
    split
    · rfl
    · simpa only [List.map_id] using (mapM_option_map _ _ id (T.map f) _ fun i _ =>
        (move_map (.slice d _ _ 1) t f hwf).symm).symm

theorem T.split?_wf (t : T α) (hwf : t.data.size = prod t.shape) (sz : Nat) (dim : Int)
    (cs : List (T α)) (h : t.split? sz dim = some cs) : ∀ c ∈ cs, c.data.size = prod c.shape := by
  unfold T.split? at h
  split at h
  · cases h
  · split at h
    · cases h
    · intro c hc
      obtain ⟨i, -, hi⟩ := mapM_option_mem _ _ _ h c hc
      exact move_wf (.slice _ _ _ 1) t c hwf hi

end Quanto
