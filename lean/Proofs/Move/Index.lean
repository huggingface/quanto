/-
Index lemmas for the data-movement operations: what `listInsert` / `listSet` / `listRemove` do to
shapes and valid multi-indices, `normDim`, `sliceBounds`, and the source map of `slice` staying inside
the source tensor (`permute`, `expand`: `Proofs/Tensor`).
-/
import Quanto.Move
import Proofs.Tensor.Permute
import Proofs.Tensor.Bcast

namespace Quanto

theorem prod_listInsert_one (l : List Nat) (d : Nat) : prod (listInsert l d 1) = prod l := by
  unfold listInsert
  rw [prod_append, prod_append]
  simp only [prod, Nat.mul_one]
  rw [← prod_append, List.take_append_drop]

theorem length_listSet {α : Type} (l : List α) (d : Nat) (v : α) : (listSet l d v).length = l.length :=
  List.length_set

theorem getD_listSet (l : List Nat) (d v k : Nat) :
    (listSet l d v).getD k 0 = if k = d ∧ d < l.length then v else l.getD k 0 := by
  unfold listSet
  simp only [List.getD_eq_getElem?_getD, List.getElem?_set]
  by_cases h : d = k
  · subst h
    by_cases h2 : d < l.length
    · simp [h2]
    · simp [h2]
  · rw [if_neg h, if_neg (by omega)]

theorem validIdx_listInsert : ∀ (s oi : List Nat) (d v : Nat), d < s.length →
    validIdx (listRemove s d) oi → v < s.getD d 0 → validIdx s (listInsert oi d v)
  | _ :: _, _, 0, _, _, h, hv => ⟨hv, h⟩
  | _ :: s, _ :: oi, d + 1, v, hd, h, hv =>
    ⟨h.1, validIdx_listInsert s oi d v (Nat.lt_of_succ_lt_succ hd) h.2 hv⟩

/-- the coordinate at axis `d` replaced by `v`, for a shape `s` that is at least `s'` off axis `d` -/
theorem validIdx_listSet (s s' oi : List Nat) (d v : Nat) (h : validIdx s' oi)
    (hl : s.length = s'.length) (hs : ∀ k, k ≠ d → s'.getD k 0 ≤ s.getD k 0)
    (hv : d < s.length → v < s.getD d 0) : validIdx s (listSet oi d v) := by
  obtain ⟨hl', hk⟩ := (validIdx_iff _ _).1 h
  refine (validIdx_iff _ _).2 ⟨by rw [length_listSet, hl', hl], fun k hks => ?_⟩
  rw [getD_listSet]
  split
  · rename_i hkd; rw [hkd.1]; exact hv (hkd.1 ▸ hks)
  · rename_i hkd
    exact Nat.lt_of_lt_of_le (hk k (hl ▸ hks)) (hs k fun e => hkd ⟨e, by omega⟩)

theorem normDim_lt {r : Nat} {d : Int} {extra a : Nat} (h : normDim r d extra = some a) :
    a < r + extra := by
  unfold normDim at h
  simp only [] at h
  split at h
  · cases h
  · injection h with h
    subst h
    split <;> omega

/-- the clamping function of `sliceBounds` -/
def clampI (n : Nat) (v : Int) : Nat :=
  let w := if v < 0 then v + n else v
  if w < 0 then 0 else if w > n then n else w.toNat

theorem clampI_le (n : Nat) (v : Int) : clampI n v ≤ n := by
  unfold clampI
  simp only []
  generalize (if v < 0 then v + (n : Int) else v) = w
  split
  · omega
  · split <;> omega

theorem sliceBounds_eq (n : Nat) (start stop : Int) :
    T.sliceBounds n start stop =
      (clampI n start, if clampI n stop < clampI n start then clampI n start else clampI n stop) := rfl

theorem sliceBounds_spec (n : Nat) (start stop : Int) :
    (T.sliceBounds n start stop).1 ≤ (T.sliceBounds n start stop).2 ∧
      (T.sliceBounds n start stop).2 ≤ n := by
  rw [sliceBounds_eq]
  have h1 := clampI_le n start
  have h2 := clampI_le n stop
  simp only []
  constructor <;> split <;> omega

/-- the last coordinate read by a slice of `len = ⌈(b - a) / step⌉` entries lies before `b` -/
theorem slice_coord_lt (a b n step j : Nat) (hb : b ≤ n) (hstep : step ≠ 0)
    (hj : j < (b - a + step - 1) / step) : a + j * step < n := by
  have h2 : (j + 1) * step ≤ b - a + step - 1 :=
    (Nat.le_div_iff_mul_le (Nat.pos_of_ne_zero hstep)).1 hj
  rw [Nat.add_mul, Nat.one_mul] at h2
  omega

theorem sliceSrc_lt (s : List Nat) (d a b step : Nat) (hd : d < s.length)
    (hb : b ≤ s.getD d 0) (m : Nat)
    (hm : m < prod (listSet s d ((b - a + step - 1) / step))) (hstep : step ≠ 0) :
    flat s (listSet (unflat (listSet s d ((b - a + step - 1) / step)) m) d
      (a + (unflat (listSet s d ((b - a + step - 1) / step)) m).getD d 0 * step)) < prod s := by
  refine flat_lt _ _ (validIdx_listSet s _ _ d _ (valid_unflat _ m hm) (length_listSet _ _ _).symm
    (fun k hk => by rw [getD_listSet, if_neg fun h => hk h.1]) fun _ => ?_)
  have hj := unflat_getD_lt _ m d hm (by rwa [length_listSet])
  rw [getD_listSet, if_pos ⟨rfl, hd⟩] at hj
  exact slice_coord_lt a b _ step _ hb hstep hj

end Quanto
