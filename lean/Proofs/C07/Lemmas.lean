/-
C07: with an int8 payload the three kernels compute one closed form, `mmCore` (accumulator to float32,
times the scale in float32, cast), so a finite element went through three finite roundings whose errors
compose; the exact accumulator `dotRows` is a `sumTo` in which non-finite positions count as zero.
-/
import Quanto.Linear
import Proofs.Float.Work
import Proofs.Tensor.Basic
import Proofs.C11.Sums

namespace Quanto

/-! ### the routes as decision lists over propositions -/

theorem ite_ite_eq_iff {α : Type} {A B : Prop} [Decidable A] [Decidable B] {x y z : α}
    (hxy : x ≠ y) (hxz : x ≠ z) (hyz : y ≠ z) :
    ((if A then x else if B then y else z) = x ↔ A) ∧
    ((if A then x else if B then y else z) = y ↔ ¬A ∧ B) ∧
    ((if A then x else if B then y else z) = z ↔ ¬A ∧ ¬B) := by
  by_cases hA : A <;> by_cases hB : B <;>
    simp [hA, hB, hxy, hxz, hyz, hxy.symm, hxz.symm, hyz.symm]

theorem routeCPU_eq (c : MmConfig) :
    routeCPU c =
      if c.torchGe24 = true ∧ c.act = .int8 ∧ c.weight = .int8 ∧ c.inF > 1 then .intMm
      else if c.act = .bf16 ∧ c.weight = .int8 ∧ c.inF % 16 = 0 then .int8packMm
      else .floatMm := by
  simp only [routeCPU, Bool.and_eq_true, beq_iff_eq, decide_eq_true_eq, and_assoc]

theorem routeCUDA_eq (c : MmConfig) :
    routeCUDA c =
      if c.act = .int8 ∧ c.weight = .int8 ∧ 16 < c.rows ∧ c.rows % 8 = 0 ∧ c.inF % 8 = 0 ∧
        c.outF % 8 = 0 then .intMm
      else .floatMm := by
  simp only [routeCUDA, Bool.and_eq_true, beq_iff_eq, decide_eq_true_eq, and_assoc]

theorem routeMPS_eq (c : MmConfig) :
    routeMPS c =
      if c.torchGe24 = true ∧ c.act = .bf16 ∧ c.weight = .int8 ∧ c.inF % 32 = 0 ∧
        c.outF % 32 = 0 then .int8packMm
      else .floatMm := by
  simp only [routeMPS, Bool.and_eq_true, beq_iff_eq, and_assoc]

/-! ### dtype bookkeeping -/

theorem mmDtype_of_int8 (outF : Fmt) {act weight : Payload} (h : act = .int8 ∨ weight = .int8) :
    mmDtype outF act weight = f32 := by
  rcases h with rfl | rfl <;> simp [mmDtype]

theorem promote_f32 (F : Fmt) (hp : F.p ≤ 24) : promote f32 F = f32 := if_pos hp

/-- closed form shared by the three kernels -/
def mmCore (outF : Fmt) (acc : Rat) (s : FV) : FV :=
  outF.rndV (f32.fl ((f32.rnd acc).mulX s))

theorem mmElement_int (outF : Fmt) (act weight : Payload) (acc : Rat) (s : FV) :
    mmElement .intMm outF act weight acc s = mmCore outF acc s := rfl

theorem mmElement_pack (outF : Fmt) (act weight : Payload) (acc : Rat) (s : FV) :
    mmElement .int8packMm outF act weight acc s = mmCore outF acc s := rfl

/-- with an int8 payload on either side the float kernel works in float32 as well: all three
kernels compute `mmCore` -/
theorem mmElement_of_int8 (k : MmKernel) (outF : Fmt) (hp : outF.p ≤ 24) {act weight : Payload}
    (h : act = .int8 ∨ weight = .int8) (acc : Rat) (s : FV) :
    mmElement k outF act weight acc s = mmCore outF acc s := by
  cases k
  case floatMm =>
    unfold mmElement mmCore
    simp only [mmDtype_of_int8 outF h, promote_f32 outF hp, fl_f32, rndV_fin]
  case intMm => exact mmElement_int outF act weight acc s
  case int8packMm => exact mmElement_pack outF act weight acc s

/-! ### a finite element -/

/-- a finite element was computed with a finite scale `sq` and went through three finite stages:
two float32 roundings `a1` of the accumulator and `p1` of `a1 * sq`, and the cast of `p1` -/
theorem mmCore_fin {outF : Fmt} {acc y : Rat} {s : FV} (h : mmCore outF acc s = .fin y) :
    ∃ sq a1 p1, s = .fin sq ∧ |a1 - acc| ≤ f32.u * |acc| + f32.eta ∧
      |p1 - a1 * sq| ≤ f32.u * |a1 * sq| + f32.eta ∧ f32.Rep p1 ∧ y = outF.rndFin p1 := by
  unfold mmCore at h
  obtain ⟨p1, hp⟩ := rndV_fin_inv outF _ y h
  obtain ⟨z, hz⟩ := fl_fin_inv f32 _ p1 hp
  obtain ⟨a1, sq, ha, rfl⟩ := mulX_fin_inv _ _ z hz
  rw [ha, show (FV.fin a1).mulX (.fin sq) = .fin (a1 * sq) from rfl] at hp h
  rw [hp] at h
  have hf : WorkFmt f32 := List.mem_cons_self
  refine ⟨sq, a1, p1, rfl, fl_err f32 hf ((fl_f32 _).trans ha), fl_err f32 hf hp, ?_,
    (rnd_fin _ _ _ h).1⟩
  rw [(fl_fin f32 hf hp).1]
  exact flR_rep f32 hf _

/-! ### composition of rounding errors (pure arithmetic) -/

theorem err_change_factor {y acc sq r E D : Rat} (e : |y - acc * sq| ≤ E) (es : |sq - r| ≤ D) :
    |y - r * acc| ≤ E + |acc| * D := by
  rw [mul_comm r acc]
  have h := abs_sub_le y (acc * sq) (acc * r)
  rw [← mul_sub, abs_mul] at h
  exact h.trans (add_le_add e (mul_le_mul_of_nonneg_left es (abs_nonneg acc)))

/-- the relative coefficient of three roundings, two of them at least as fine as the third, is
`2u + v` up to second order -/
theorem three_stage_coeff {u v : Rat} (h0 : 0 ≤ u) (huv : u ≤ v) (h1 : u ≤ 1) :
    (1 + u) ^ 2 * (1 + v) - 1 ≤ 2 * u + v + 4 * u * v := by
  rw [← sub_nonneg, show 2 * u + v + 4 * u * v - ((1 + u) ^ 2 * (1 + v) - 1)
    = u * (v - u) + u * v * (1 - u) by ring]
  exact add_nonneg (mul_nonneg h0 (sub_nonneg.mpr huv))
    (mul_nonneg (mul_nonneg h0 (h0.trans huv)) (sub_nonneg.mpr h1))

/-! ### `dotRows` as a finite sum -/

/-- multiplication of a payload value by a finite scale (exact dequantization) -/
def scaleV (s : Rat) (v : FV) : FV := (FV.fin s).mulX v

theorem scaleV_fin (s x : Rat) : scaleV s (.fin x) = .fin (s * x) := rfl

/-- what a position contributes to `dotRows`: its value if finite, nothing otherwise -/
def FV.finVal : FV → Rat
  | .fin x => x
  | _ => 0

theorem FV.finVal_ofSign (s : Int) : (FV.ofSign s).finVal = 0 := by
  unfold FV.ofSign
  split_ifs <;> rfl

theorem FV.finVal_scaleV (s : Rat) (v : FV) : (scaleV s v).finVal = s * v.finVal := by
  cases v with
  | fin x => rfl
  | nan => exact (mul_zero s).symm
  | _ => exact (FV.finVal_ofSign _).trans (mul_zero s).symm

theorem abs_finVal_le {v : FV} {A : Rat} (hA : 0 ≤ A) (h : ∀ x, v = .fin x → |x| ≤ A) :
    |v.finVal| ≤ A := by
  cases v with
  | fin x => exact h x rfl
  | _ => exact (abs_zero (α := Rat)).trans_le hA

theorem dotRows_eq_sum (a w : T FV) (K i j : Nat) :
    dotRows a w K i j = sumTo K fun k => (a.get (i * K + k)).finVal * (w.get (j * K + k)).finVal := by
  unfold dotRows sumTo
  congr 1
  funext acc k
  beta_reduce
  -- a non-finite factor leaves the accumulator alone: `acc = acc + x * 0`
  cases a.get (i * K + k) with
  | fin x => cases w.get (j * K + k) with
    | fin y => rfl
    | _ => exact (add_zero acc).symm.trans (congrArg _ (mul_zero x).symm)
  | _ => exact (add_zero acc).symm.trans (congrArg _ (zero_mul _).symm)

theorem dotRows_abs_le (a w : T FV) (A W : Rat) (hA : 0 ≤ A) (hW : 0 ≤ W)
    (ha : ∀ n x, a.get n = .fin x → |x| ≤ A) (hw : ∀ n y, w.get n = .fin y → |y| ≤ W)
    (K i j : Nat) : |dotRows a w K i j| ≤ (K : Rat) * (A * W) := by
  rw [dotRows_eq_sum]
  refine sumTo_abs_le fun k _ => ?_
  rw [abs_mul]
  exact mul_le_mul (abs_finVal_le hA (ha _)) (abs_finVal_le hW (hw _)) (abs_nonneg _) hA

def constRow (K : Nat) (c : Rat) : T FV := T.ofFn [1, K] fun _ => FV.fin c

theorem constRow_get (K : Nat) (c : Rat) (n : Nat) :
    (constRow K c).get n = .fin c ∨ (constRow K c).get n = .fin 0 := by
  unfold constRow
  by_cases hn : n < prod [1, K]
  · left; exact T.get_ofFn _ _ _ hn
  · right
    rw [T.get_ofFn_ge _ _ _ (not_lt.mp hn)]
    rfl

theorem dotRows_constRow (K : Nat) (c d : Rat) :
    dotRows (constRow K c) (constRow K d) K 0 0 = (K : Rat) * (c * d) := by
  rw [dotRows_eq_sum, ← sumTo_const]
  refine sumTo_congr fun k hk => ?_
  have hk' : 0 * K + k < prod [1, K] := by simpa [prod] using hk
  unfold constRow
  rw [T.get_ofFn _ _ _ hk', T.get_ofFn _ _ _ hk']
  rfl

/-! ### `linearQBytes` unfolded: its `let`s under names, so that an element can be stated -/

def ActOperand.data : ActOperand → T FV
  | .plain t => t
  | .quant q => q.data

def ActOperand.payload (F : Fmt) : ActOperand → Payload
  | .plain _ => if F == f32 then Payload.f32 else if F == f16 then .f16 else .bf16
  | .quant q => if q.Q.isFloat then Payload.float8 else .int8

def QB.payload (w : QB) : Payload := if w.Q.isFloat then .float8 else .int8

theorem QB.payload_qint8 {w : QB} (h : w.Q = .qint8) : w.payload = .int8 := by
  rw [QB.payload, h]; rfl

/-- output scale of column `j`: the weight scale (per-tensor or per output feature), multiplied in
the working dtype by the activation scale when the activations are quantized -/
def linScale (F : Fmt) (x : ActOperand) (w : QB) (j : Nat) : FV :=
  match x with
  | .plain _ => w.scale.get (if w.scale.data.size = 1 then 0 else j)
  | .quant q => F.mul (q.scale.get 0) (w.scale.get (if w.scale.data.size = 1 then 0 else j))

def addBias (F : Fmt) (bias : Option (T FV)) (j : Nat) (y : FV) : FV :=
  match bias with
  | none => y
  | some b => F.add y (b.get j)

theorem linScale_quant (F : Fmt) (q w : QB) (j : Nat) :
    linScale F (.quant q) w j =
      F.mul (q.scale.get 0) (w.scale.get (if w.scale.data.size = 1 then 0 else j)) := rfl

theorem addBias_none (F : Fmt) (j : Nat) (y : FV) : addBias F none j y = y := rfl

theorem linearQBytes_eq (k : MmKernel) (F : Fmt) (x : ActOperand) (w : QB) (bias : Option (T FV)) :
    linearQBytes k F x w bias =
      T.ofFn (x.data.shape.dropLast ++ [w.size.headD 0]) fun n =>
        addBias F bias (n % w.size.headD 0)
          (mmElement k F (x.payload F) w.payload
            (dotRows x.data w.data (w.size.getD 1 0) (n / w.size.headD 0) (n % w.size.headD 0))
            (linScale F x w (n % w.size.headD 0))) := by
  cases x <;> cases bias <;> rfl

end Quanto
