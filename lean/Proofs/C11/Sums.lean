/-
Algebra of the finite sum `sumTo` (a left fold over `List.range`): used by the explicit backward
of the quantized linear (C11) and, since `dotRows` is such a fold, by the contraction of C07.
-/
import Quanto.Grad
import Mathlib.Tactic.Ring
import Mathlib.Tactic.Linarith
import Mathlib.Algebra.Order.Field.Rat

namespace Quanto

/-- the accumulator of the fold can be pulled out -/
theorem sumTo_foldl_acc (l : List Nat) (f : Nat → Rat) (a : Rat) :
    l.foldl (fun a k => a + f k) a = a + l.foldl (fun a k => a + f k) 0 := by
  induction l generalizing a with
  | nil => simp
  | cons x xs ih =>
    simp only [List.foldl_cons]
    rw [ih (a + f x), ih (0 + f x)]
    ring

@[simp] theorem sumTo_zero (f : Nat → Rat) : sumTo 0 f = 0 := by
  simp [sumTo]

theorem sumTo_succ (n : Nat) (f : Nat → Rat) : sumTo (n + 1) f = sumTo n f + f n := by
  simp [sumTo, List.range_succ]

theorem sumTo_congr {n : Nat} {f g : Nat → Rat} (h : ∀ i, i < n → f i = g i) :
    sumTo n f = sumTo n g := by
  induction n with
  | zero => simp
  | succ n ih =>
    rw [sumTo_succ, sumTo_succ, ih (fun i hi => h i (Nat.lt_succ_of_lt hi)), h n (Nat.lt_succ_self n)]

theorem sumTo_const (n : Nat) (c : Rat) : sumTo n (fun _ => c) = n * c := by
  induction n with
  | zero => simp
  | succ n ih => rw [sumTo_succ, ih]; push_cast; ring

theorem sumTo_eq_zero {n : Nat} {f : Nat → Rat} (h : ∀ i, i < n → f i = 0) : sumTo n f = 0 := by
  rw [sumTo_congr h, sumTo_const, mul_zero]

theorem sumTo_abs_le {n : Nat} {f : Nat → Rat} {B : Rat} (h : ∀ i, i < n → |f i| ≤ B) :
    |sumTo n f| ≤ n * B := by
  induction n with
  | zero => simp
  | succ n ih =>
    rw [sumTo_succ]
    exact (abs_add_le _ _).trans <|
      (add_le_add (ih fun i hi => h i (Nat.lt_succ_of_lt hi)) (h n (Nat.lt_succ_self n))).trans_eq
        (by push_cast; ring)

theorem sumTo_add (n : Nat) (f g : Nat → Rat) :
    sumTo n (fun i => f i + g i) = sumTo n f + sumTo n g := by
  induction n with
  | zero => simp
  | succ n ih => rw [sumTo_succ, sumTo_succ, sumTo_succ, ih]; ring

theorem sumTo_mul_left (n : Nat) (c : Rat) (f : Nat → Rat) :
    sumTo n (fun i => c * f i) = c * sumTo n f := by
  induction n with
  | zero => simp
  | succ n ih => rw [sumTo_succ, sumTo_succ, ih]; ring

theorem sumTo_mul_mul (n : Nat) (a b : Rat) (f g : Nat → Rat) :
    sumTo n (fun k => (a * f k) * (b * g k)) = a * b * sumTo n (fun k => f k * g k) := by
  rw [← sumTo_mul_left]
  exact sumTo_congr fun k _ => by ring

theorem sumTo_mul_right (n : Nat) (c : Rat) (f : Nat → Rat) :
    sumTo n (fun i => f i * c) = sumTo n f * c := by
  simp only [mul_comm _ c, sumTo_mul_left]

/-- Fubini for two nested finite sums -/
theorem sumTo_comm (N M : Nat) (f : Nat → Nat → Rat) :
    sumTo N (fun i => sumTo M (fun j => f i j)) = sumTo M (fun j => sumTo N (fun i => f i j)) := by
  induction N with
  | zero => simp [sumTo_const]
  | succ N ih =>
    rw [sumTo_succ, ih, ← sumTo_add]
    exact sumTo_congr (fun j _ => (sumTo_succ N (fun i => f i j)).symm)

/-- `g · (B a) = (g B) · a` for vectors `g`, `a` and a matrix `B` -/
theorem sumTo_assoc (O K : Nat) (g a : Nat → Rat) (b : Nat → Nat → Rat) :
    sumTo O (fun j => g j * sumTo K (fun k => a k * b j k))
      = sumTo K (fun k => sumTo O (fun j => g j * b j k) * a k) := by
  simp only [← sumTo_mul_left, ← sumTo_mul_right]
  rw [sumTo_comm]
  exact sumTo_congr fun k _ => sumTo_congr fun j _ => by ring

theorem sumTo_add_index (m n : Nat) (f : Nat → Rat) :
    sumTo (m + n) f = sumTo m f + sumTo n (fun j => f (m + j)) := by
  induction n with
  | zero => simp
  | succ n ih => rw [← Nat.add_assoc, sumTo_succ, sumTo_succ, ih]; ring

/-- row-major flattening of two leading dimensions: `i = b1 * B2 + b2` -/
theorem sumTo_flatten (B1 B2 : Nat) (f : Nat → Rat) :
    sumTo (B1 * B2) f = sumTo B1 (fun b1 => sumTo B2 (fun b2 => f (b1 * B2 + b2))) := by
  induction B1 with
  | zero => simp
  | succ B1 ih => rw [Nat.succ_mul, sumTo_add_index, sumTo_succ, ih]

theorem sumTo_indicator (n i0 : Nat) (g : Nat → Rat) :
    sumTo n (fun i => if i = i0 then g i else 0) = if i0 < n then g i0 else 0 := by
  induction n with
  | zero => rfl
  | succ n ih =>
    rw [sumTo_succ, ih]
    rcases Nat.lt_trichotomy i0 n with h | rfl | h
    · rw [if_pos h, if_neg (Nat.ne_of_gt h), if_pos (Nat.lt_succ_of_lt h), add_zero]
    · rw [if_neg (Nat.lt_irrefl _), if_pos rfl, if_pos (Nat.lt_succ_self _), zero_add]
    · rw [if_neg (Nat.lt_asymm h), if_neg (Nat.ne_of_lt h), if_neg (by omega), add_zero]

theorem sumTo_indicator_lt {n i0 : Nat} (h : i0 < n) (g : Nat → Rat) :
    sumTo n (fun i => if i = i0 then g i else 0) = g i0 := by
  rw [sumTo_indicator, if_pos h]

/-! ### inner products: a matrix pairing is the sum of the pairings of the rows -/

theorem inner2_eq (N M : Nat) (a b : Nat → Nat → Rat) :
    inner2 N M a b = sumTo N fun i => inner1 M (a i) (b i) := rfl

theorem inner1_zero_right (M : Nat) (a : Nat → Rat) : inner1 M a (fun _ => 0) = 0 :=
  sumTo_eq_zero fun j _ => mul_zero (a j)

theorem inner2_zero_right (N M : Nat) (a : Nat → Nat → Rat) : inner2 N M a (fun _ _ => 0) = 0 :=
  sumTo_eq_zero fun i _ => inner1_zero_right M (a i)

theorem inner1_indicator {M j0 : Nat} (hj : j0 < M) (a : Nat → Rat) :
    inner1 M a (fun j => if j = j0 then 1 else 0) = a j0 := by
  unfold inner1
  rw [← sumTo_indicator_lt hj a]
  exact sumTo_congr (fun j _ => by by_cases hj' : j = j0 <;> simp [hj'])

theorem inner2_indicator {N M i0 j0 : Nat} (hi : i0 < N) (hj : j0 < M) (a : Nat → Nat → Rat) :
    inner2 N M a (fun i j => if i = i0 ∧ j = j0 then 1 else 0) = a i0 j0 := by
  rw [inner2_eq, ← sumTo_indicator_lt hi fun i => a i j0]
  refine sumTo_congr fun i _ => ?_
  by_cases h : i = i0
  · simp only [h, true_and, if_true]
    exact inner1_indicator hj (a i0)
  · simp only [h, false_and, if_false]
    exact inner1_zero_right M (a i)

/-- the pairings are non-degenerate on the index ranges -/
theorem inner2_ext {N M : Nat} {a b : Nat → Nat → Rat}
    (h : ∀ d, inner2 N M a d = inner2 N M b d) (i j : Nat) (hi : i < N) (hj : j < M) :
    a i j = b i j := by
  have := h fun i' j' => if i' = i ∧ j' = j then 1 else 0
  rwa [inner2_indicator hi hj, inner2_indicator hi hj] at this

theorem inner1_ext {M : Nat} {a b : Nat → Rat} (h : ∀ d, inner1 M a d = inner1 M b d)
    (j : Nat) (hj : j < M) : a j = b j := by
  have := h fun j' => if j' = j then 1 else 0
  rwa [inner1_indicator hj, inner1_indicator hj] at this

end Quanto
